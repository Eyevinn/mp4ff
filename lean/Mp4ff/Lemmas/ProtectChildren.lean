import Mp4ff.Lemmas.Protect
/-!
What the list functions of `Mp4ff.Model.Protect` do on the three shapes of children that occur.  Lists without protection
boxes (`clearT` in a traf, `clearM` in a moof) are left alone by placing, decoding, `removeProt` and the pssh filter.  For a
list with saiz, saio, senc appended there are the `_append`, `_saiz_saio_senc` and `_append_senc` lemmas.  A map over the truns
(`mapTrunsC` in a traf, `mapTruns` in a moof) commutes with everything that does not look at truns.
Nearly every proof is the induction along the recursion of the function concerned, each case closed by unfolding the other
functions one step: the lemma named in the simp set, if there is one, is the same fact one level down (a traf's children
for a moof's), and that is all a proof here rests on.
-/
namespace Mp4ff.Protect

@[simp] theorem sizes_nil : sizes [] = 0 := rfl
@[simp] theorem sizes_cons (c : TrafChild) (l : List TrafChild) : sizes (c :: l) = c.size + sizes l := by
  simp [sizes]
@[simp] theorem sizes_append (a b : List TrafChild) : sizes (a ++ b) = sizes a + sizes b := by
  simp [sizes]
@[simp] theorem msizes_nil : msizes [] = 0 := rfl
@[simp] theorem msizes_cons (c : MoofChild) (l : List MoofChild) : msizes (c :: l) = c.size + msizes l := by
  simp [msizes]
@[simp] theorem msizes_append (a b : List MoofChild) : msizes (a ++ b) = msizes a + msizes b := by
  simp [msizes]

@[simp] theorem isProt_other (k : String) (n : Nat) : (TrafChild.other k n).isProt = false := rfl
@[simp] theorem isProt_trun (r : Trun) : (TrafChild.trun r).isProt = false := rfl
@[simp] theorem isProt_saiz (b : Saiz) : (TrafChild.saiz b).isProt = true := rfl
@[simp] theorem isProt_saio (b : Saio) : (TrafChild.saio b).isProt = true := rfl
@[simp] theorem isProt_senc (b : Senc) : (TrafChild.senc b).isProt = true := rfl
@[simp] theorem isProt_uuidSenc (n : Nat) (p : Bool) (sp : Nat) : (TrafChild.uuidSenc n p sp).isProt = true := rfl
@[simp] theorem isPssh_other (k : String) (n : Nat) : (MoofChild.other k n).isPssh = false := rfl
@[simp] theorem isPssh_pssh (n : Nat) : (MoofChild.pssh n).isPssh = true := rfl
@[simp] theorem isPssh_traf (t : Traf) : (MoofChild.traf t).isPssh = false := rfl

theorem clearT_cons (c : TrafChild) (l : List TrafChild) : clearT (c :: l) = (!c.isProt && clearT l) := by
  simp [clearT]

theorem removeProt_clear (l : List TrafChild) (h : clearT l = true) : removeProt l = l :=
  List.filter_eq_self.2 (List.all_eq_true.1 h)

theorem removedBytes_clear (l : List TrafChild) (h : clearT l = true) : removedBytes l = 0 := by
  have : l.filter TrafChild.isProt = [] :=
    List.filter_eq_nil_iff.2 fun c hc => by simpa using List.all_eq_true.1 h c hc
  rw [removedBytes, this]; rfl

theorem removeProt_append (a b : List TrafChild) : removeProt (a ++ b) = removeProt a ++ removeProt b := by
  simp [removeProt]

theorem removedBytes_append (a b : List TrafChild) : removedBytes (a ++ b) = removedBytes a + removedBytes b := by
  simp [removedBytes]

theorem removeProt_saiz_saio_senc (a : Saiz) (o : Saio) (s : Senc) : removeProt [.saiz a, .saio o, .senc s] = [] := rfl
theorem removedBytes_saiz_saio_senc (a : Saiz) (o : Saio) (s : Senc) :
    removedBytes [.saiz a, .saio o, .senc s] = a.size + o.size + s.size := by
  show sizes [.saiz a, .saio o, .senc s] = _
  simp [TrafChild.size]; omega

theorem removed_add_remaining : ∀ l, removedBytes l + sizes (removeProt l) = sizes l
  | [] => rfl
  | c :: l => by
    have ih := removed_add_remaining l
    cases hc : c.isProt <;> simp [removedBytes, removeProt, hc] at ih ⊢ <;> omega

theorem placeTrafChildren_clear : ∀ l pos, clearT l = true → placeTrafChildren l pos = l
  | [], _, _ => rfl
  | c :: l, pos, h => by
    rw [clearT_cons] at h
    have ih := placeTrafChildren_clear l (pos + c.size) (by simp at h; exact h.2)
    cases c <;> simp_all [TrafChild.isProt, placeTrafChildren]

theorem placeTrafChildren_append (a b : List TrafChild) (pos : Nat) :
    placeTrafChildren (a ++ b) pos = placeTrafChildren a pos ++ placeTrafChildren b (pos + sizes a) := by
  fun_induction placeTrafChildren a pos <;> simp_all [placeTrafChildren, Nat.add_assoc]

theorem sizes_placeTrafChildren : ∀ l pos, sizes (placeTrafChildren l pos) = sizes l
  | [], _ => rfl
  | c :: l, pos => by
    simp only [placeTrafChildren, sizes_cons, sizes_placeTrafChildren l, Nat.add_right_cancel_iff]
    cases c with
    | senc s =>
      -- the decoder records the size it read, and a box is never empty
      have := Senc.calcSize_ge s
      simp only [TrafChild.size, Senc.size]
      split <;> (try split) <;> omega
    | _ => rfl

theorem containsSenc_clear_append : ∀ a b, clearT a = true → containsSenc (a ++ b) = containsSenc b
  | [], _, _ => rfl
  | c :: a, b, h => by
    rw [clearT_cons] at h
    simp at h
    have ih := containsSenc_clear_append a b h.2
    cases c <;> simp_all [TrafChild.isProt, containsSenc]

theorem containsSenc_clear (a : List TrafChild) (h : clearT a = true) : containsSenc a = none := by
  simpa [containsSenc] using containsSenc_clear_append a [] h

theorem lastSenc_append (a b : List TrafChild) : lastSenc (a ++ b) = (lastSenc b).or (lastSenc a) := by
  induction a with
  | nil => simp [lastSenc]
  | cons c a ih => simp only [List.cons_append, lastSenc, ih]; cases lastSenc b <;> cases lastSenc a <;> rfl

theorem lastSaio_append (a b : List TrafChild) : lastSaio (a ++ b) = (lastSaio b).or (lastSaio a) := by
  induction a with
  | nil => simp [lastSaio]
  | cons c a ih => simp only [List.cons_append, lastSaio, ih]; cases lastSaio b <;> cases lastSaio a <;> rfl

theorem markSenc_append_senc (a : List TrafChild) (x y : TrafChild) (s : Senc) :
    markSenc (a ++ [x, y, .senc s]) = (a ++ [x, y, .senc { s with parsed := true }], true) := by
  induction a with
  | nil => simp [markSenc]
  | cons c a ih => simp [markSenc, ih]

theorem markParsed_append_senc (a : List TrafChild) (x y : TrafChild) (s : Senc) :
    markParsed (a ++ [x, y, .senc s]) = a ++ [x, y, .senc { s with parsed := true }] := by
  simp [markParsed, markSenc_append_senc]

theorem placeChildren_clear (l : List MoofChild) (pos : Nat) (h : clearM l = true) : placeChildren l pos = l := by
  fun_induction clearM l generalizing pos <;> simp_all [placeChildren, placeTrafChildren_clear]

theorem decodeTrafs_clear (ms : Nat) (l : List MoofChild) (h : clearM l = true) : decodeTrafs ms l = some l := by
  fun_induction clearM l <;> simp_all [decodeTrafs, containsSenc_clear]

theorem filter_pssh_clear (l : List MoofChild) (h : clearM l = true) :
    l.filter (fun c => !c.isPssh) = l ∧ l.filter MoofChild.isPssh = [] := by
  induction l with
  | nil => exact ⟨rfl, rfl⟩
  | cons c l ih => cases c <;> simp_all [clearM]

theorem sizes_mapTrunsC (h : Trun → Trun) (hs : ∀ r, (h r).size = r.size) : ∀ l, sizes (mapTrunsC h l) = sizes l
  | [] => rfl
  | c :: l => by
    have ih := sizes_mapTrunsC h hs l
    cases c <;> simp [mapTrunsC, ih, TrafChild.size, hs]

theorem containsSenc_mapTrunsC (h : Trun → Trun) (l : List TrafChild) :
    containsSenc (mapTrunsC h l) = containsSenc l := by
  induction l with
  | nil => rfl
  | cons c l ih => cases c <;> simp [mapTrunsC, containsSenc, ih]

theorem lastSenc_mapTrunsC (h : Trun → Trun) (l : List TrafChild) : lastSenc (mapTrunsC h l) = lastSenc l := by
  induction l with
  | nil => rfl
  | cons c l ih => cases c <;> simp [mapTrunsC, lastSenc, ih]

theorem lastUuidSenc_mapTrunsC (h : Trun → Trun) (l : List TrafChild) :
    lastUuidSenc (mapTrunsC h l) = lastUuidSenc l := by
  induction l with
  | nil => rfl
  | cons c l ih => cases c <;> simp [mapTrunsC, lastUuidSenc, ih]

theorem lastSaio_mapTrunsC (h : Trun → Trun) (l : List TrafChild) : lastSaio (mapTrunsC h l) = lastSaio l := by
  induction l with
  | nil => rfl
  | cons c l ih => cases c <;> simp [mapTrunsC, lastSaio, ih]

theorem parseReadSencOk_mapTrunsC (h : Trun → Trun) (l : List TrafChild) (ms : Nat) :
    parseReadSencOk (mapTrunsC h l) ms = parseReadSencOk l ms := by
  simp [parseReadSencOk, saioOk, lastSenc_mapTrunsC, lastUuidSenc_mapTrunsC, lastSaio_mapTrunsC]

theorem removeProt_mapTrunsC (h : Trun → Trun) (l : List TrafChild) :
    removeProt (mapTrunsC h l) = mapTrunsC h (removeProt l) := by
  unfold removeProt
  induction l with
  | nil => rfl
  | cons c l ih => cases c <;> simp [mapTrunsC, ih]

theorem removedBytes_mapTrunsC (h : Trun → Trun) (l : List TrafChild) :
    removedBytes (mapTrunsC h l) = removedBytes l := by
  unfold removedBytes
  induction l with
  | nil => rfl
  | cons c l ih => cases c <;> simp [mapTrunsC, List.filter_cons, ih, TrafChild.size]

theorem decryptTraf_mapTrunsC (di : DecInfo) (ms : Nat) (h : Trun → Trun) (t : Traf) :
    decryptTraf di ms { t with children := mapTrunsC h t.children } =
      (decryptTraf di ms t).map fun p => ({ p.1 with children := mapTrunsC h p.1.children }, p.2) := by
  -- what `decryptTraf` decides on is unchanged; then both sides take the same branch
  simp only [decryptTraf, containsSenc_mapTrunsC, parseReadSencOk_mapTrunsC, removeProt_mapTrunsC,
    removedBytes_mapTrunsC]
  repeat' split
  all_goals rfl

theorem decryptTrafs_mapTruns (di : DecInfo) (ms : Nat) (h : Trun → Trun) (l : List MoofChild) :
    decryptTrafs di ms (mapTruns h l) = (decryptTrafs di ms l).map fun p => (mapTruns h p.1, p.2) := by
  unfold mapTruns
  fun_induction decryptTrafs di ms l <;> simp_all [mapTrafs, decryptTrafs, decryptTraf_mapTrunsC]

theorem mapTrunsC_comp (g h : Trun → Trun) (l : List TrafChild) :
    mapTrunsC g (mapTrunsC h l) = mapTrunsC (fun r => g (h r)) l := by
  induction l with
  | nil => rfl
  | cons c l ih => cases c <;> simp [mapTrunsC, ih]

theorem mapTruns_comp (g h : Trun → Trun) (l : List MoofChild) :
    mapTruns g (mapTruns h l) = mapTruns (fun r => g (h r)) l := by
  unfold mapTruns
  fun_induction mapTrafs _ l <;> simp_all [mapTrafs, mapTrunsC_comp]

theorem mapTrunsC_congr (g h : Trun → Trun) (hgh : ∀ r, g r = h r) (l : List TrafChild) :
    mapTrunsC g l = mapTrunsC h l := by
  have : g = h := funext hgh
  rw [this]

theorem clearT_mapTrunsC (h : Trun → Trun) (l : List TrafChild) : clearT (mapTrunsC h l) = clearT l := by
  induction l with
  | nil => rfl
  | cons c l ih => cases c <;> simp [mapTrunsC, clearT_cons, ih]

theorem clearM_mapTruns (h : Trun → Trun) (l : List MoofChild) : clearM (mapTruns h l) = clearM l := by
  unfold mapTruns
  fun_induction clearM l <;> simp_all [mapTrafs, clearM, clearT_mapTrunsC]

theorem msizes_mapTruns (h : Trun → Trun) (hs : ∀ r, (h r).size = r.size) (l : List MoofChild) :
    msizes (mapTruns h l) = msizes l := by
  unfold mapTruns
  fun_induction mapTrafs _ l <;> simp_all [MoofChild.size, Traf.size, sizes_mapTrunsC h hs]

theorem trunsOf_mapTrunsC (h : Trun → Trun) (l : List TrafChild) : trunsOf (mapTrunsC h l) = (trunsOf l).map h := by
  induction l with
  | nil => rfl
  | cons c l ih => cases c <;> simp [mapTrunsC, trunsOf, ih]

theorem allTrunsOf_mapTruns (h : Trun → Trun) (l : List MoofChild) :
    allTrunsOf (mapTruns h l) = (allTrunsOf l).map h := by
  unfold mapTruns allTrunsOf
  fun_induction trafsOf l <;> simp_all [mapTrafs, trafsOf, Traf.truns, trunsOf_mapTrunsC]

end Mp4ff.Protect
