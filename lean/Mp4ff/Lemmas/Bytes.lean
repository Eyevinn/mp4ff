import Mp4ff.Model.Basic
/-! The big-endian codec `beBytes` / `beVal` and closure of `IsBytes` under take, drop, append (needs `Model/Basic.lean` only). -/
namespace Mp4ff

theorem IsBytes.take {l : Bytes} (h : IsBytes l) (n : Nat) : IsBytes (l.take n) :=
  fun b hb => h b (List.mem_of_mem_take hb)

theorem IsBytes.drop {l : Bytes} (h : IsBytes l) (n : Nat) : IsBytes (l.drop n) :=
  fun b hb => h b (List.mem_of_mem_drop hb)

theorem IsBytes.tail {b : Nat} {a : Bytes} (h : IsBytes (b :: a)) : IsBytes a :=
  fun x hx => h x (List.mem_cons_of_mem b hx)

theorem IsBytes.reverse {l : Bytes} (h : IsBytes l) : IsBytes l.reverse :=
  fun x hx => h x (List.mem_reverse.1 hx)

theorem IsBytes.of_append_left {a b : Bytes} (h : IsBytes (a ++ b)) : IsBytes a :=
  fun x hx => h x (List.mem_append_left b hx)

theorem IsBytes.of_append_right {a b : Bytes} (h : IsBytes (a ++ b)) : IsBytes b :=
  fun x hx => h x (List.mem_append_right a hx)

theorem IsBytes.append {a b : Bytes} (ha : IsBytes a) (hb : IsBytes b) : IsBytes (a ++ b) := by
  intro x hx
  rcases List.mem_append.mp hx with h | h
  · exact ha x h
  · exact hb x h

theorem beVal_foldl (l : Bytes) : ∀ init : Nat,
    l.foldl (fun acc b => acc * 256 + b) init
      = init * 256 ^ l.length + l.foldl (fun acc b => acc * 256 + b) 0 := by
  induction l with
  | nil => intro init; simp
  | cons x xs ih =>
    intro init
    simp only [List.foldl_cons, List.length_cons]
    rw [ih (init * 256 + x), ih (0 * 256 + x)]
    simp only [Nat.zero_mul, Nat.zero_add, Nat.pow_succ, Nat.add_mul]
    rw [Nat.mul_assoc, Nat.mul_comm 256 (256 ^ xs.length), Nat.add_assoc]

theorem beVal_cons (x : Nat) (l : Bytes) : beVal (x :: l) = x * 256 ^ l.length + beVal l := by
  simp only [beVal, List.foldl_cons]
  rw [beVal_foldl]; simp

theorem beVal_concat (l : Bytes) (b : Nat) : beVal (l ++ [b]) = beVal l * 256 + b := by
  simp [beVal]

theorem beVal_nil : beVal [] = 0 := rfl

theorem beBytes_length (w x : Nat) : (beBytes w x).length = w := by
  induction w with
  | zero => simp [beBytes]
  | succ w ih => simp [beBytes, ih]

theorem beVal_beBytes_mod (w : Nat) : ∀ x, beVal (beBytes w x) = x % 256 ^ w := by
  induction w with
  | zero => intro x; simp [beBytes, beVal, Nat.mod_one]
  | succ w ih =>
    intro x
    simp only [beBytes]
    rw [beVal_cons, beBytes_length, ih, Nat.mod_pow_succ]
    rw [Nat.mul_comm, Nat.add_comm]

theorem beVal_beBytes (w x : Nat) (h : x < 256 ^ w) : beVal (beBytes w x) = x := by
  rw [beVal_beBytes_mod, Nat.mod_eq_of_lt h]

theorem isBytes_beBytes (w x : Nat) : IsBytes (beBytes w x) := by
  induction w with
  | zero => intro b hb; simp [beBytes] at hb
  | succ w ih =>
    intro b hb
    simp only [beBytes, List.mem_cons] at hb
    rcases hb with rfl | hb
    · exact Nat.mod_lt _ (by decide)
    · exact ih b hb

theorem beVal_lt (l : Bytes) (h : IsBytes l) : beVal l < 256 ^ l.length := by
  induction l with
  | nil => simp [beVal]
  | cons x xs ih =>
    rw [beVal_cons]
    have hx : x < 256 := h x (by simp)
    have hxs := ih h.tail
    simp only [List.length_cons, Nat.pow_succ]
    have : x * 256 ^ xs.length ≤ 255 * 256 ^ xs.length := Nat.mul_le_mul_right _ (by omega)
    omega

theorem beBytes_add_mul (w : Nat) : ∀ a b, beBytes w (a * 256 ^ w + b) = beBytes w b := by
  induction w with
  | zero => intro a b; simp [beBytes]
  | succ w ih =>
    intro a b
    simp only [beBytes]
    have hpos : 0 < 256 ^ w := Nat.pow_pos (by decide)
    have e : a * 256 ^ (w + 1) + b = (a * 256) * 256 ^ w + b := by
      rw [Nat.pow_succ, Nat.mul_assoc, Nat.mul_comm (256 ^ w) 256]
    rw [e, ih (a * 256) b]
    congr 1
    rw [Nat.add_comm, Nat.add_mul_div_right _ _ hpos, Nat.add_mul_mod_self_right]

theorem beBytes_beVal (l : Bytes) (h : IsBytes l) : beBytes l.length (beVal l) = l := by
  induction l with
  | nil => simp [beBytes]
  | cons x xs ih =>
    have hx : x < 256 := h x (by simp)
    have hI : IsBytes xs := h.tail
    have hlt := beVal_lt xs hI
    have hpos : 0 < 256 ^ xs.length := Nat.pow_pos (by decide)
    simp only [List.length_cons, beBytes]
    rw [beVal_cons, beBytes_add_mul, ih hI]
    congr 1
    rw [Nat.add_comm, Nat.add_mul_div_right _ _ hpos, Nat.div_eq_of_lt hlt, Nat.zero_add,
      Nat.mod_eq_of_lt hx]

theorem beBytes_beVal_take {bs : Bytes} (h : IsBytes bs) {w : Nat} (hw : w ≤ bs.length) :
    beBytes w (beVal (bs.take w)) = bs.take w := by
  have := beBytes_beVal (bs.take w) (h.take w)
  rwa [List.length_take, Nat.min_eq_left hw] at this

end Mp4ff
