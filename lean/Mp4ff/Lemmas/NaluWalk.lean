import Mp4ff.Model.Nalu
import Mp4ff.Lemmas.Bytes
/-! The length-prefixed walkers (`GetNalusFromSample`, `FindNaluTypes…`, `ContainsNaluType`, `GetParameterSets`) are one
loop, `walk`, with four bodies.  What holds of every such loop is proved of `walk`: it needs no more fuel than the input
is long, an invariant of the body is an invariant of the loop, and on a well-formed sample `lenPrefixed ns` it is a fold
over `ns`. -/
namespace Mp4ff.Nalu

theorem U32_eq : U32 = 4294967296 := by decide

theorem put32_eq (k : Nat) : put32 k = [k / 16777216 % 256, k / 65536 % 256, k / 256 % 256, k % 256] := by
  simp [put32, beBytes]

@[simp] theorem put32_length (k : Nat) : (put32 k).length = 4 := beBytes_length 4 k

theorem byteAt_append_right (pre t : Bytes) (j : Nat) : byteAt (pre ++ t) (pre.length + j) = byteAt t j := by
  simp [byteAt, List.getD_eq_getElem?_getD, List.getElem?_append_right]

theorem be32_at (pre tail : Bytes) (k : Nat) (hk : k < U32) :
    be32 (pre ++ (put32 k ++ tail)) pre.length = k := by
  -- `be32` weighs the four bytes of `put32 k` as `beVal` does
  have hv : beVal (put32 k) = k := beVal_beBytes 4 k hk
  -- `pre.length` as `pre.length + 0`, the form `byteAt_append_right` rewrites
  rw [be32, ← Nat.add_zero pre.length]
  simp only [Nat.add_assoc, byteAt_append_right]
  simpa [beVal, put32, beBytes] using hv

theorem slice_mid (s pre0 n R : Bytes) (hs : s = pre0 ++ (n ++ R)) :
    slice s pre0.length (pre0.length + n.length) = n := by
  simp [hs, slice]

theorem slice_length (s : Bytes) (a b : Nat) : (slice s a b).length = min (b - a) (s.length - a) := by
  simp [slice]

theorem lenPrefixed_cons (n : Bytes) (rest : List Bytes) :
    lenPrefixed (n :: rest) = put32 n.length ++ (n ++ lenPrefixed rest) := by
  simp [lenPrefixed]

theorem lenPrefixed_length_cons (n : Bytes) (rest : List Bytes) :
    (lenPrefixed (n :: rest)).length = 4 + n.length + (lenPrefixed rest).length := by
  simp [lenPrefixed_cons]; omega

theorem lenPrefixed_length_ge {ns : List Bytes} (hne : ns ≠ []) : ¬ (lenPrefixed ns).length < 4 := by
  cases ns with
  | nil => exact absurd rfl hne
  | cons n rest => rw [lenPrefixed_length_cons]; omega

theorem length_le_lenPrefixed : ∀ ns : List Bytes, ns.length ≤ (lenPrefixed ns).length
  | [] => by simp
  | n :: rest => by
    have := length_le_lenPrefixed rest
    rw [lenPrefixed_length_cons]; simp; omega

/-- The loop the length-prefixed walkers share.  While a length field and one more byte fit at `pos`, the body `step`
    is given the state, the first byte behind the length field, whether the length `n` read points beyond the input, and
    the `n` bytes behind the field; it ends the walk with a result or goes on, behind those bytes, with a new state. -/
def walk {σ ρ : Type} (s : Bytes) (step : σ → Nat → Bool → Bytes → ρ ⊕ σ) (done : σ → ρ) : Nat → Nat → σ → ρ
  | 0, _, st => done st
  | fuel + 1, pos, st =>
    if pos + 4 < s.length then
      Sum.elim id (walk s step done fuel (pos + 4 + be32 s pos)) (step st (byteAt s (pos + 4))
        (decide (be32 s pos > s.length - (pos + 4))) (slice s (pos + 4) (pos + 4 + be32 s pos)))
    else done st

/-- a step of at least 4 from inside the input shortens what is left of it -/
theorem remaining_lt {len pos : Nat} (n : Nat) (h : pos + 4 ≤ len) : len - (pos + 4 + n) < len - pos :=
  Nat.sub_lt_sub_left (by omega) (by omega)

/-- every round moves the cursor by at least 4, whatever the body does -/
theorem walk_fuel {σ ρ : Type} (s : Bytes) (step : σ → Nat → Bool → Bytes → ρ ⊕ σ) (done : σ → ρ) :
    ∀ (f g pos : Nat) (st : σ), s.length - pos + 1 ≤ f → s.length - pos + 1 ≤ g →
    walk s step done f pos st = walk s step done g pos st
  | 0, _, _, _, hf, _ => nomatch hf
  | _, 0, _, _, _, hg => nomatch hg
  | f + 1, g + 1, pos, st, hf, hg => by
    rw [walk, walk]
    by_cases h : pos + 4 < s.length
    · have hk := remaining_lt (be32 s pos) (Nat.le_of_lt h)
      rw [if_pos h, if_pos h]
      generalize step st _ _ _ = r
      cases r with
      | inl r => rfl
      | inr st' =>
        exact walk_fuel s step done f g _ st' (Nat.le_trans hk (Nat.le_of_succ_le_succ hf))
          (Nat.le_trans hk (Nat.le_of_succ_le_succ hg))
    · rw [if_neg h, if_neg h]

/-- An invariant of the body is an invariant of the loop.  What the body may rely on is said once, here: unless it is
    told of an overrun, the bytes `u` it is handed are the `n` bytes of the input behind the length field. -/
theorem walk_inv {σ ρ : Type} (s : Bytes) (step : σ → Nat → Bool → Bytes → ρ ⊕ σ) (done : σ → ρ)
    (I : Nat → σ → Prop) (Q : ρ → Prop) (hdone : ∀ pos st, I pos st → Q (done st))
    (hstep : ∀ pos st n hdr over u, I pos st → pos + 4 < s.length →
      (over = false → u.length = n ∧ pos + 4 + n ≤ s.length ∧ u = slice s (pos + 4) (pos + 4 + n)) →
      Sum.elim Q (I (pos + 4 + n)) (step st hdr over u)) :
    ∀ (fuel pos : Nat) (st : σ), I pos st → Q (walk s step done fuel pos st)
  | 0, pos, st, h => hdone pos st h
  | fuel + 1, pos, st, h => by
    rw [walk]
    by_cases hg : pos + 4 < s.length
    · rw [if_pos hg]
      have := hstep pos st (be32 s pos) (byteAt s (pos + 4)) (decide (be32 s pos > s.length - (pos + 4))) _ h hg
        fun ho => by
          have := of_decide_eq_false ho
          exact ⟨by rw [slice_length]; omega, by omega, rfl⟩
      revert this
      generalize step st _ _ _ = r
      cases r with
      | inl r => exact id
      | inr st' => exact walk_inv s step done I Q hdone hstep fuel _ st'
    · rw [if_neg hg]; exact hdone pos st h

/-- at cursor `pre.length` of `s` stands the length-prefixed unit `n`, and behind it the units `rest` -/
structure UnitAt (s pre n : Bytes) (rest : List Bytes) : Prop where
  header_lt : pre.length + 4 < s.length
  be32 : be32 s pre.length = n.length
  not_over : ¬ (n.length > s.length - (pre.length + 4))
  slice : slice s (pre.length + 4) (pre.length + 4 + n.length) = n
  header : byteAt s (pre.length + 4) = n.headD 0
  next : s = (pre ++ put32 n.length ++ n) ++ lenPrefixed rest
  next_length : (pre ++ put32 n.length ++ n).length = pre.length + 4 + n.length
  end_le : pre.length + 4 + n.length ≤ s.length

theorem unitAt_of_eq (s pre n : Bytes) (rest : List Bytes) (hs : s = pre ++ lenPrefixed (n :: rest))
    (hlt : s.length < U32) (hne : n ≠ []) : UnitAt s pre n rest := by
  have hn := List.length_pos_iff.mpr hne
  rw [lenPrefixed_cons] at hs
  have hl : s.length = pre.length + 4 + n.length + (lenPrefixed rest).length := by
    simp only [hs, List.length_append, put32_length, Nat.add_assoc]
  have hend : pre.length + 4 + n.length ≤ s.length := hl ▸ Nat.le_add_right _ _
  have hnl : n.length < U32 := Nat.lt_of_le_of_lt (Nat.le_trans (Nat.le_add_left ..) hend) hlt
  refine {
    header_lt := Nat.lt_of_lt_of_le (Nat.lt_add_of_pos_right hn) hend
    not_over := Nat.not_lt.2 (Nat.le_sub_of_add_le' hend), end_le := hend
    next := by simp [hs], next_length := by simp only [List.length_append, put32_length]
    be32 := ?_, slice := ?_, header := ?_ }
  · rw [hs]; exact be32_at _ _ _ hnl
  · have := slice_mid s (pre ++ put32 n.length) n (lenPrefixed rest) (by rw [hs, List.append_assoc])
    rwa [List.length_append, put32_length] at this
  · have := byteAt_append_right (pre ++ put32 n.length) (n ++ lenPrefixed rest) 0
    simp only [List.length_append, put32_length, List.append_assoc, Nat.add_zero] at this
    rw [hs, this]
    cases n with
    | nil => exact absurd rfl hne
    | cons a t => rfl

/-- a fold that can stop early -/
def unitFold {α σ ρ : Type} (g : σ → α → ρ ⊕ σ) (done : σ → ρ) : List α → σ → ρ
  | [], st => done st
  | a :: rest, st => Sum.elim id (unitFold g done rest) (g st a)

/-- what a body does to a whole unit of a well-formed sample -/
def onUnit {σ ρ : Type} (step : σ → Nat → Bool → Bytes → ρ ⊕ σ) (st : σ) (n : Bytes) : ρ ⊕ σ :=
  step st (n.headD 0) false n

theorem walk_lenPrefixed {σ ρ : Type} (s : Bytes) (step : σ → Nat → Bool → Bytes → ρ ⊕ σ) (done : σ → ρ) :
    ∀ (rest : List Bytes) (pre : Bytes) (fuel : Nat) (st : σ),
    s = pre ++ lenPrefixed rest → s.length < U32 → (∀ n ∈ rest, n ≠ []) → rest.length + 1 ≤ fuel →
    walk s step done fuel pre.length st = unitFold (onUnit step) done rest st
  | _, _, 0, _, _, _, _, hf => by omega
  | [], pre, fuel + 1, st, hs, _, _, _ => by
    have : s.length = pre.length := by simp [hs, lenPrefixed]
    rw [walk, if_neg (by omega), unitFold]
  | n :: rest, pre, fuel + 1, st, hs, hlt, hne, hf => by
    have hu := unitAt_of_eq s pre n rest hs hlt (hne n (List.mem_cons_self ..))
    have ih := fun st' => walk_lenPrefixed s step done rest _ fuel st' hu.next hlt
      (fun m hm => hne m (List.mem_cons_of_mem _ hm)) (by simp at hf; omega)
    rw [hu.next_length] at ih
    rw [walk, if_pos hu.header_lt]
    simp only [hu.be32, hu.header, hu.slice, decide_eq_false hu.not_over, unitFold, onUnit]
    cases step st (n.headD 0) false n with
    | inl r => rfl
    | inr st' => exact ih st'

/-- body of `GetNalusFromSample` (avc/nalus.go): an overrun is the error return, otherwise the unit is kept -/
def nalusFromSampleStep (acc : List Bytes) (_ : Nat) (over : Bool) (u : Bytes) : Option (List Bytes) ⊕ List Bytes :=
  if over then .inl none else .inr (acc ++ [u])

/-- body of `FindNaluTypes` and, with `stop`, of `FindNaluTypesUpToFirstVideoNALU` (avc/avc.go, hevc/hevc.go): the type
    is recorded before either `break` is tested, so the unit that ends the walk is in the list -/
def naluTypesStep (c : Codec) (stop : Bool) (acc : List Nat) (hdr : Nat) (over : Bool) (_ : Bytes) :
    List Nat ⊕ List Nat :=
  if stop ∧ c.isVideo (c.typeOf hdr) then .inl (acc ++ [c.typeOf hdr])
  else if over then .inl (acc ++ [c.typeOf hdr]) else .inr (acc ++ [c.typeOf hdr])

/-- body of `ContainsNaluType`: the type is tested before the overrun, so a unit cut short by the end of the sample
    still counts -/
def containsTypeStep (c : Codec) (t0 : Nat) (_ : Unit) (hdr : Nat) (over : Bool) (_ : Bytes) : Bool ⊕ Unit :=
  if c.typeOf hdr = t0 then .inl true else if over then .inl false else .inr ()

/-- body of `GetParameterSets`: here the overrun is tested first; a parameter set is kept, a video unit ends the walk
    (`break naluLoop`), anything else is passed over -/
def paramSetsStep (c : Codec) (isPS : Nat → Bool) (acc : List (Nat × Bytes)) (hdr : Nat) (over : Bool) (u : Bytes) :
    List (Nat × Bytes) ⊕ List (Nat × Bytes) :=
  if over then .inl acc
  else if isPS (c.typeOf hdr) then .inr (acc ++ [(c.typeOf hdr, u)])
  else if c.isVideo (c.typeOf hdr) then .inl acc else .inr acc

theorem nalusFromSample_go_eq (s : Bytes) : ∀ fuel pos acc,
    nalusFromSample.go s fuel pos acc = walk s nalusFromSampleStep some fuel pos acc
  | 0, _, _ => rfl
  | fuel + 1, pos, acc => by
    simp only [nalusFromSample.go, walk, nalusFromSampleStep, apply_ite (Sum.elim _ _), Sum.elim_inl, Sum.elim_inr, id,
      nalusFromSample_go_eq s fuel, decide_eq_true_eq]

theorem naluTypes_go_eq (c : Codec) (stop : Bool) (s : Bytes) : ∀ fuel pos acc,
    naluTypes.go c stop s fuel pos acc = walk s (naluTypesStep c stop) id fuel pos acc
  | 0, _, _ => rfl
  | fuel + 1, pos, acc => by
    simp only [naluTypes.go, walk, naluTypesStep, apply_ite (Sum.elim _ _), Sum.elim_inl, Sum.elim_inr, id,
      naluTypes_go_eq c stop s fuel, decide_eq_true_eq]

theorem naluTypes_eq_walk (c : Codec) (stop : Bool) (s : Bytes) :
    naluTypes c stop s = walk s (naluTypesStep c stop) id (s.length + 1) 0 [] := by
  rw [naluTypes, ← naluTypes_go_eq]
  split
  · rw [naluTypes.go, if_neg (by omega)]
  · rfl

theorem containsType_go_eq (c : Codec) (s : Bytes) (t0 : Nat) : ∀ fuel pos,
    containsType.go c s t0 fuel pos = walk s (containsTypeStep c t0) (fun _ => false) fuel pos ()
  | 0, _ => rfl
  | fuel + 1, pos => by
    simp only [containsType.go, walk, containsTypeStep, apply_ite (Sum.elim _ _), Sum.elim_inl, Sum.elim_inr, id,
      containsType_go_eq c s t0 fuel, decide_eq_true_eq]

theorem paramSets_go_eq (c : Codec) (isPS : Nat → Bool) (s : Bytes) : ∀ fuel pos acc,
    paramSets.go c isPS s fuel pos acc = walk s (paramSetsStep c isPS) id fuel pos acc
  | 0, _, _ => rfl
  | fuel + 1, pos, acc => by
    simp only [paramSets.go, walk, paramSetsStep, apply_ite (Sum.elim _ _), Sum.elim_inl, Sum.elim_inr, id,
      paramSets_go_eq c isPS s fuel, decide_eq_true_eq]

end Mp4ff.Nalu
