import Mp4ff.Lemmas.BitSynRoundtrip
import Mp4ff.Lemmas.BitSynTotal
import Mp4ff.Lemmas.Basics
/-!
C15/C16 for the HEVC sequence parameter set: totality with a fuel bound linear in the NAL unit length, bounded output,
round trip through the complete `ParseSPSNALUnit` model, the split 48-bit read.
-/
namespace Mp4ff.HevcSps
open Mp4ff.BitSyn Mp4ff.Bits

/-- this part of the syntax is computed (`List.range`), not written out: by evaluation -/
theorem depthL_ptlSubLayers : depthL ((List.range 7).map ptlSubLayer) = 15 := by decide +kernel

theorem maxEntriesL_ptlSubLayers : maxEntriesL ((List.range 7).map ptlSubLayer) = 49 := by decide +kernel

theorem depthL_sps (cap : Nat) : depthL (sps cap) ≤ 3 * cap + 870 := by
  simp only [sps, spsHead, ptl, sccExt, stRps, vui, hrd, subLayerHrdParams, rangeExt, ext3d, List.cons_append,
    List.nil_append]
  apply depthL_le_of_add
  simp only [↓depthL_add_le_varFld_append, ↓depthL_add_le_leaf, ↓depthL_add_le_cond, ↓depthL_add_le_rep,
    ↓depthL_add_le_nil, depthL_varFld, depthL_ptlSubLayers, depthL_scalingListData, Nat.reduceAdd,
    Nat.reduceLeDiff, and_self, and_true, true_and]
  omega

theorem maxEntriesL_sps (cap : Nat) : maxEntriesL (sps cap) = 51 * cap + 96194 := by
  simp only [sps, spsHead, ptl, sccExt, stRps, vui, hrd, subLayerHrdParams, rangeExt, ext3d, List.cons_append,
    List.nil_append]
  -- only now the arithmetic, by the equations that are not `rfl` (the term contains `varFld _ _ 255`: see Lemmas/BitSynTotal.lean)
  simp only [maxEntriesL_append, maxEntriesL_cons, maxEntriesL_nil, maxEntries_fld, maxEntries_flag, maxEntries_ue,
    maxEntries_seterr, maxEntries_abort, maxEntries_cond, maxEntries_rep, maxEntriesL_varFld,
    maxEntriesL_ptlSubLayers, maxEntriesL_scalingListData]
  omega

/-- with the depth of the syntax as fuel `parseSps` answers, and an answer `.ok` holds a bounded list of values -/
theorem parseSps_spec (f : Nat) (nalu : Bytes) (hf : 3 * capOf nalu + 870 ≤ f) :
    parseSps f nalu ≠ .fuel ∧ ∀ t ext, parseSps f nalu = .ok t ext → t.length ≤ 51 * capOf nalu + 96194 := by
  obtain ⟨t, e, hp, hl⟩ := parse_total_depth f (sps (capOf nalu)) [] { rest := nalu }
    (by have := depthL_sps (capOf nalu); omega)
  rw [maxEntriesL_sps, List.length_nil, Nat.zero_add] at hl
  unfold parseSps
  simp only [hp]
  -- every branch behind the syntax is `.err` or `.ok t _`
  constructor
  · intro h
    cases (ite_ne_left (ite_ne_left h nofun).2 nofun).2
  · intro t' ext h
    cases (ite_ne_left (ite_ne_left h nofun).2 nofun).2
    exact hl

theorem sps_total (nalu : Bytes) (f : Nat) (hf : 3 * capOf nalu + 870 ≤ f) : parseSps f nalu ≠ .fuel :=
  (parseSps_spec f nalu hf).1

theorem sps_total_driver (nalu : Bytes) : parseSps (fuel nalu) nalu ≠ .fuel :=
  sps_total nalu (fuel nalu) (by simp only [capOf, fuel]; omega)

theorem sps_total_length (nalu : Bytes) (f : Nat) (hf : 3 * capOf nalu + 870 ≤ f) :
    ∀ t ext, parseSps f nalu = .ok t ext → t.length ≤ 51 * capOf nalu + 96194 :=
  (parseSps_spec f nalu hf).2

theorem sps_roundtrip (f : Nat) (tr : Trace) (nalu : Bytes) (h : TraceOK f (sps (capOf nalu)) tr)
    (hs : serialize f (sps (capOf nalu)) tr = some nalu) : parseSps f nalu = .ok tr [] := by
  obtain ⟨e, P, m, he⟩ := parse_serialized h hs
  obtain ⟨ht1, ht2⟩ := Sei.readTrailing_spec e P m he.inv he.abs
  unfold parseSps
  simp only [he.parsed, h.2, he.inv.err, extFlags_at_trailing e P m he.inv he.abs, Bool.false_eq_true, or_self, if_false,
    ite_self, ht1, ht2, ne_eq, not_true_eq_false]

theorem read48_split (e : ER) (P : Bytes) (he : e.Inv P) (h : 48 ≤ (e.abs P).length) :
    (e.read 48).2 = (e.read 16).2 * 2 ^ 32 + ((e.read 16).1.read 32).2 ∧
    ∃ P1 P2, (e.read 48).1.Inv P1 ∧ ((e.read 16).1.read 32).1.Inv P2 ∧
      (e.read 48).1.abs P1 = ((e.read 16).1.read 32).1.abs P2 := by
  obtain ⟨P1, i1, a1, v1, b1, _⟩ := ER.read_spec e P 48 he (by omega) h
  obtain ⟨Pa, ia, aa, va, ba, _⟩ := ER.read_spec e P 16 he (by omega) (by omega)
  obtain ⟨P2, i2, a2, v2, b2, _⟩ := ER.read_spec (e.read 16).1 Pa 32 ia (by omega) (by rw [aa]; simp; omega)
  generalize (e.read 16).2 = hi at va ba ⊢
  generalize ((e.read 16).1.read 32).2 = lo at v2 b2 ⊢
  refine ⟨?_, P1, P2, i1, i2, by rw [a1, a2, aa, List.drop_drop]⟩
  -- both sides are below 2^48 and have the same 48 low bits: the 16 bits read first, then the 32
  have hshift : (hi * 2 ^ 32 + lo) >>> 32 = hi := by
    rw [Nat.shiftRight_eq_div_pow, Nat.mul_comm, Nat.mul_add_div (Nat.two_pow_pos 32), Nat.div_eq_of_lt b2,
      Nat.add_zero]
  have hlow : lowBits 32 (hi * 2 ^ 32 + lo) = lowBits 32 lo := lowBits_congr fun i hi32 => by
    rw [Nat.mul_comm, Nat.testBit_two_pow_mul_add _ b2]; simp [hi32]
  refine eq_of_lowBits_eq b1 ?_ ?_
  · rw [show 48 = 16 + 32 from rfl, Nat.pow_add]
    exact Nat.lt_mul_of_div_lt (by rw [← Nat.shiftRight_eq_div_pow, hshift]; exact ba) (Nat.two_pow_pos 32)
  · rw [v1, lowBits_append 16 32, hshift, hlow, va, v2, aa, ← List.take_add]

end Mp4ff.HevcSps
