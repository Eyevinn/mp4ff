import Mp4ff.Lemmas.HasZero
/-! The word-at-a-time scanner finds what the byte-by-byte scanner finds.  One probe covers two byte positions
(`probe_pair`), the four probes of a word its eight, and the `hasZeroByte` gate only skips words in which no probe could
fire (Lemmas/HasZero.lean); what is left is a regrouping of `List.range'`. -/
namespace Mp4ff.Nalu

/-- the body of the byte loop -/
def scanStep (s : Bytes) (i : Nat) : Option SC :=
  if isSC s i then some ⟨if i ≥ 1 ∧ byteAt s (i - 1) = 0 then 4 else 3, i + 3⟩ else none

theorem scanStep_eq_some {s : Bytes} {i : Nat} {sc : SC} (h : scanStep s i = some sc) : isSC s i = true ∧ sc.pos = i + 3 := by
  unfold scanStep at h
  split at h
  · rename_i hsc; cases h; exact ⟨hsc, rfl⟩
  · cases h

theorem scanFrom_eq (s : Bytes) (i0 : Nat) :
    scanFrom s i0 = (List.range' i0 (s.length - 3 - i0)).filterMap (scanStep s) := rfl

/-- One probe covers two byte positions.  With `b`, `c` the bytes at `p + 1`, `p + 2`: nothing is found unless
    `b = 0`; then `c = 1` asks for the start code at `p` and `c = 0` for the one at `p + 1`, and these exclude each
    other. -/
theorem probe_pair (s : Bytes) (p : Nat) :
    (probe s (p + 1)).toList = (scanStep s p).toList ++ (scanStep s (p + 1)).toList := by
  have e : p + 1 - 2 = p - 1 := Nat.add_sub_add_right p 1 1
  simp only [probe, scanStep, isSC, Nat.add_sub_cancel, Nat.add_assoc, Nat.reduceAdd, e, ge_iff_le,
    Nat.le_add_left, true_and]
  -- `byteAt` is reducible: keep `simp` from looking into the five bytes
  generalize byteAt s (p - 1) = z, byteAt s p = a, byteAt s (p + 1) = b, byteAt s (p + 2) = c,
    byteAt s (p + 3) = d
  by_cases hb : b = 0
  · by_cases hc : c = 1
    · by_cases ha : a = 0 <;> simp [ha, hb, hc]
    · by_cases hc0 : c = 0 <;> by_cases hd : d = 1 <;> simp [hb, hc, hc0, hd]
  · simp [hb]

theorem filterMap_eq_flatMap_toList {α β} (f : α → Option β) (l : List α) :
    l.filterMap f = l.flatMap (fun a => (f a).toList) := by
  induction l with
  | nil => rfl
  | cons a l ih => cases h : f a <;> simp [h, ih]

theorem probes_eq_scanStep (s : Bytes) (i : Nat) :
    [i + 1, i + 3, i + 5, i + 7].filterMap (probe s) = (List.range' i 8).filterMap (scanStep s) := by
  rw [filterMap_eq_flatMap_toList, filterMap_eq_flatMap_toList]
  have h1 := probe_pair s i
  have h3 := probe_pair s (i + 2)
  have h5 := probe_pair s (i + 4)
  have h7 := probe_pair s (i + 6)
  simp only [List.range', List.flatMap_cons, List.flatMap_nil, List.append_nil] at *
  rw [h1, h3, h5, h7]
  simp [List.append_assoc]

theorem probe_eq_none (s : Bytes) (j : Nat) (h : byteAt s j ≠ 0) : probe s j = none := by
  unfold probe; rw [if_neg h]

theorem gated_probes_eq_scanStep (s : Bytes) (hs : IsBytes s) (i : Nat) :
    (if hasZeroByte (word s i) then [i + 1, i + 3, i + 5, i + 7].filterMap (probe s) else [])
      = (List.range' i 8).filterMap (scanStep s) := by
  rw [← probes_eq_scanStep]
  split
  · rfl
  · rename_i hg
    have nz : ∀ k, k < 8 → byteAt s (i + k) ≠ 0 := fun k hk hz =>
      hg (hasZeroByte_word s hs i k hk hz)
    simp [probe_eq_none s _ (nz 1 (by omega)), probe_eq_none s _ (nz 3 (by omega)),
      probe_eq_none s _ (nz 5 (by omega)), probe_eq_none s _ (nz 7 (by omega))]

theorem flatMap_words (s : Bytes) (W : Nat) :
    (List.range W).flatMap (fun w => (List.range' (8 * w) 8).filterMap (scanStep s))
      = (List.range' 0 (8 * W)).filterMap (scanStep s) := by
  induction W with
  | zero => rfl
  | succ W ih =>
    rw [List.range_succ, List.flatMap_append, ih]
    have : 8 * (W + 1) = 8 * W + 8 := by omega
    rw [this, ← List.range'_append_1 (s := 0) (m := 8 * W) (n := 8)]
    simp

theorem scanWords_eq (s : Bytes) (hs : IsBytes s) :
    scanWords s = (List.range' 0 (wordLim s)).filterMap (scanStep s) := by
  unfold scanWords
  have e : wordLim s = 8 * (wordLim s / 8) := by unfold wordLim; omega
  conv => rhs; rw [e]
  rw [← flatMap_words]
  congr 1
  funext w
  exact gated_probes_eq_scanStep s hs (8 * w)

theorem scanWord_eq (s : Bytes) (hs : IsBytes s) : scanWord s = scanByte s := by
  unfold scanWord scanByte
  rw [scanWords_eq s hs, scanFrom_eq, scanFrom_eq, ← List.filterMap_append]
  have hL : wordLim s ≤ s.length - 3 := by unfold wordLim; omega
  have := List.range'_append_1 (s := 0) (m := wordLim s) (n := s.length - 3 - wordLim s)
  simp only [Nat.zero_add] at this
  rw [this]
  congr 2
  exact Nat.add_sub_cancel' hL

end Mp4ff.Nalu
