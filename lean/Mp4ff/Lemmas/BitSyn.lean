import Mp4ff.Model.BitSyn
import Mp4ff.Lemmas.BitsOps
/-!
The bitstream-syntax DSL step by step: inversion lemmas for the serialiser `BitSyn.ops` (the equations of the reader
`BitSyn.parse` serve as they are, but for the four value-carrying elements, which are treated as one), what a run of
`ops` does to the traces, and `Trace.get` on appended traces.
-/
namespace Mp4ff.BitSyn
open Mp4ff.Bits

theorem ops_nil_inv {f : Nat} {acc src : Trace} {os a s}
    (h : ops (f + 1) [] acc src = some (os, a, s)) : os = [] ∧ a = acc ∧ s = src := by
  simp [ops] at h; obtain ⟨rfl, rfl, rfl⟩ := h; exact ⟨rfl, rfl, rfl⟩

/-! The four elements that carry a value are one thing: a name and the primitive operation for a value. -/

def Syn.name? : Syn → Option String
  | .fld nm _ | .flag nm | .ue nm | .se nm => some nm
  | _ => none

/-- the operation the serialiser emits for value `v` (its shape is also what the reader reads); of no meaning on
    the elements without a name -/
def Syn.op : Syn → Int → Op
  | .fld _ k, v => .fld k v.toNat
  | .flag _, v => .flag (v == 1)
  | .ue _, v => .ue v.toNat
  | .se _, v => .se v
  | _, _ => .flag false

theorem Syn.leafCases {motive : Syn → Prop} (leaf : ∀ s nm, s.name? = some nm → motive s)
    (cond : ∀ p body, motive (.cond p body)) (rep : ∀ cap n body, motive (.rep cap n body))
    (seterr : ∀ p, motive (.seterr p)) (abort : ∀ p, motive (.abort p)) : ∀ s, motive s
  | .fld nm _ => leaf _ nm rfl
  | .flag nm => leaf _ nm rfl
  | .ue nm => leaf _ nm rfl
  | .se nm => leaf _ nm rfl
  | .cond p body => cond p body
  | .rep cap n body => rep cap n body
  | .seterr p => seterr p
  | .abort p => abort p

theorem ops_leaf_inv {s : Syn} {nm : String} (hn : s.name? = some nm) {f : Nat} {rest : List Syn} {acc src : Trace}
    {os a s'} (h : ops (f + 1) (s :: rest) acc src = some (os, a, s')) :
    ∃ v src' o, src = (nm, v) :: src' ∧ (s.op v).value = v ∧ ops f rest (acc ++ [(nm, v)]) src' = some (o, a, s') ∧
      os = s.op v :: o := by
  -- all four equations of `ops` have the shape `if c then (ops f rest _ src').map (op :: ·) else none`
  have core : ∀ {c : Prop} [Decidable c] {op : Op} {r : Option (List Op × Trace × Trace)},
      (if c then r.map (fun (o, a, s) => (op :: o, a, s)) else none) = some (os, a, s') →
      c ∧ ∃ o, r = some (o, a, s') ∧ os = op :: o := by
    intro c _ op r h
    by_cases hc : c
    · rw [if_pos hc] at h
      obtain _ | ⟨o, a', s''⟩ := r
      · cases h
      · cases h
        exact ⟨hc, o, rfl, rfl⟩
    · rw [if_neg hc] at h; cases h
  obtain _ | ⟨⟨nm', v⟩, src'⟩ := src
  · cases s <;> simp only [Syn.name?, reduceCtorEq] at hn <;> cases h
  · cases s <;> simp only [Syn.name?, Option.some.injEq, reduceCtorEq] at hn <;> subst hn <;> unfold ops at h <;>
      obtain ⟨hc, o, hr, rfl⟩ := core h
    · exact ⟨v, src', o, by rw [hc.1], Int.toNat_of_nonneg hc.2, hr, rfl⟩
    · exact ⟨v, src', o, by rw [hc.1], by rcases hc.2 with rfl | rfl <;> rfl, hr, rfl⟩
    · exact ⟨v, src', o, by rw [hc.1], Int.toNat_of_nonneg hc.2, hr, rfl⟩
    · exact ⟨v, src', o, by rw [hc], rfl, hr, rfl⟩

/-- `ops_leaf_inv` for a leading value element that is only to be stepped over (once per field in front of the part of
    a syntax a proof is about).  `v` is the element's value, `src'` and `o` what is left of the source and of the
    operations; the fuel left is a successor `f' + 1`, the form the inversion lemmas take. -/
theorem ops_leaf_next {s : Syn} {nm : String} (hn : s.name? = some nm) {f : Nat} {rest : List Syn} {acc src : Trace}
    {os a s'} (h : ops f (s :: rest) acc src = some (os, a, s')) :
    ∃ f' v src' o, ops (f' + 1) rest (acc ++ [(nm, v)]) src' = some (o, a, s') := by
  match f, h with
  | f + 1, h =>
    obtain ⟨v, src', o, _, _, hr, _⟩ := ops_leaf_inv hn h
    match f, hr with
    | f + 1, hr => exact ⟨f, v, src', o, hr⟩

/-- the shape in which `ops` runs a body and then what follows it -/
theorem ops_seq_inv {r1 : Option (List Op × Trace × Trace)} {k : Trace → Trace → Option (List Op × Trace × Trace)}
    {os : List Op} {a s : Trace}
    (h : (match r1 with
      | some (o1, a1, s1) => (k a1 s1).map fun (o2, a2, s2) => (o1 ++ o2, a2, s2)
      | none => none) = some (os, a, s)) :
    ∃ o1 a1 s1 o2, r1 = some (o1, a1, s1) ∧ k a1 s1 = some (o2, a, s) ∧ os = o1 ++ o2 := by
  match r1 with
  | none => cases h
  | some (o1, a1, s1) =>
    match h2 : k a1 s1 with
    | none => simp [h2] at h
    | some (o2, a2, s2) =>
      simp only [h2, Option.map_some, Option.some.injEq, Prod.mk.injEq] at h
      obtain ⟨rfl, rfl, rfl⟩ := h
      exact ⟨o1, a1, s1, o2, rfl, h2, rfl⟩

/-- What follows the group is stated once, from the state the group leaves: for a long `rest`, facts about it are
    then had once, in front of the case distinction. -/
theorem ops_cond_inv {f : Nat} {p : Trace → Bool} {body rest : List Syn} {acc src : Trace} {os a s}
    (h : ops (f + 1) (.cond p body :: rest) acc src = some (os, a, s)) :
    ∃ o1 a1 s1 o2,
      (p acc = true ∧ ops f body acc src = some (o1, a1, s1) ∨ p acc = false ∧ o1 = [] ∧ a1 = acc ∧ s1 = src) ∧
      ops f rest a1 s1 = some (o2, a, s) ∧ os = o1 ++ o2 := by
  rw [ops] at h
  cases hp : p acc with
  | true =>
    rw [hp, if_pos rfl] at h
    obtain ⟨o1, a1, s1, o2, h1, h2, ho⟩ := ops_seq_inv h
    exact ⟨o1, a1, s1, o2, .inl ⟨rfl, h1⟩, h2, ho⟩
  | false => rw [hp, if_neg (by decide)] at h; exact ⟨[], acc, src, os, .inr ⟨rfl, rfl, rfl, rfl⟩, h, rfl⟩

theorem ops_rep_inv {f : Nat} {cap : Nat} {n : Trace → Nat} {body rest : List Syn} {acc src : Trace} {os a s}
    (h : ops (f + 1) (.rep cap n body :: rest) acc src = some (os, a, s)) :
    (min (n acc) cap = 0 ∧ ops f rest acc src = some (os, a, s)) ∨
    (∃ k o1 a1 s1 o2, min (n acc) cap = k + 1 ∧ ops f body acc src = some (o1, a1, s1) ∧
        ops f (.rep k (fun _ => k) body :: rest) a1 s1 = some (o2, a, s) ∧ os = o1 ++ o2) := by
  rw [ops] at h
  cases hn : min (n acc) cap with
  | zero => rw [hn] at h; exact .inl ⟨rfl, h⟩
  | succ k =>
    rw [hn] at h
    obtain ⟨o1, a1, s1, o2, h1, h2, rfl⟩ := ops_seq_inv h
    exact .inr ⟨k, o1, a1, s1, o2, rfl, h1, h2, rfl⟩

/-- `seterr` and `abort` are the same to the serialiser: a condition that must not hold -/
theorem ops_guard_inv {s : Syn} {p : Trace → Bool} (hg : s = .seterr p ∨ s = .abort p) {f : Nat} {rest : List Syn}
    {acc src : Trace} {r} (h : ops (f + 1) (s :: rest) acc src = some r) :
    p acc = false ∧ ops f rest acc src = some r := by
  rcases hg with rfl | rfl <;> simp only [ops] at h <;> cases hp : p acc <;> simp_all

theorem parse_nil (f : Nat) (acc : Trace) (e : ER) : parse (f + 1) [] acc e = some (acc, e) := rfl

theorem parse_stopped (f : Nat) (L : List Syn) (acc : Trace) (e : ER) (hs : stopped acc = true) :
    parse (f + 1) L acc e = some (acc, e) := by
  match L with
  | [] => rfl
  | s :: _ => cases s <;> simp [parse, hs]

/-- `v` is arbitrary: the reader consults only the shape of the element's operation -/
theorem parse_leaf {s : Syn} {nm : String} (hn : s.name? = some nm) (v : Int) (f : Nat) (rest : List Syn) (acc : Trace)
    (e : ER) (hs : stopped acc = false) :
    parse (f + 1) (s :: rest) acc e = parse f rest (acc ++ [(nm, (e.readOp (s.op v)).2)]) (e.readOp (s.op v)).1 := by
  cases s <;> simp only [Syn.name?, Option.some.injEq, reduceCtorEq] at hn <;> subst hn <;>
    simp [parse, hs, Syn.op, ER.readOp]

theorem opsBits_append (a b : List Op) : opsBits (a ++ b) = opsBits a ++ opsBits b := by
  induction a with
  | nil => rfl
  | cons op a ih => simp [opsBits, ih]

mutual
/-- the value elements of a syntax, bodies flattened -/
def Syn.leaves : Syn → List Syn
  | .cond _ body | .rep _ _ body => leavesL body
  | .seterr _ | .abort _ => []
  | .fld nm k => [.fld nm k]
  | .flag nm => [.flag nm]
  | .ue nm => [.ue nm]
  | .se nm => [.se nm]
def leavesL : List Syn → List Syn
  | [] => []
  | s :: rest => s.leaves ++ leavesL rest
end

theorem mem_leaves_of_name {s : Syn} {nm : String} (hn : s.name? = some nm) : s ∈ s.leaves := by
  cases s <;> first | exact List.mem_singleton.mpr rfl | cases hn

/-- The one induction over a run of the serialiser: what it consumes, what it appends, and that a value element of
    the syntax accepted each entry.  The elements are looked for in any list `Ls` that holds the value elements of the
    syntax, so that the induction hands `Ls` down as it is. -/
theorem ops_used (f : Nat) : ∀ (L : List Syn) (acc src : Trace) (os : List Op) (acc' src' : Trace) (Ls : List Syn),
    (∀ s ∈ leavesL L, s ∈ Ls) → ops f L acc src = some (os, acc', src') →
    ∃ used, src = used ++ src' ∧ acc' = acc ++ used ∧
      ∀ en ∈ used, ∃ s ∈ Ls, s.name? = some en.1 ∧ (s.op en.2).value = en.2 := by
  induction f with
  | zero => intro L acc src os acc' src' Ls _ h; cases h
  | succ f ih =>
    intro L acc src os acc' src' Ls hL h
    obtain _ | ⟨s, rest⟩ := L
    · obtain ⟨_, rfl, rfl⟩ := ops_nil_inv h; exact ⟨[], by simp, by simp, by simp⟩
    · -- `leavesL (s :: rest)` is `s.leaves ++ leavesL rest` by definition, whatever the cap of a repetition `s`
      have hrest : ∀ x ∈ leavesL rest, x ∈ Ls := fun x hx => hL x (List.mem_append_right _ hx)
      induction s using Syn.leafCases with
      | leaf s nm hn =>
        obtain ⟨v, s0, o, rfl, hv, hr, _⟩ := ops_leaf_inv hn h
        obtain ⟨u, rfl, rfl, hu⟩ := ih _ _ _ _ _ _ Ls hrest hr
        refine ⟨(nm, v) :: u, by simp, by simp, fun en hen => ?_⟩
        rcases List.mem_cons.mp hen with rfl | hen
        · exact ⟨s, hL s (List.mem_append_left _ (mem_leaves_of_name hn)), hn, hv⟩
        · exact hu en hen
      | cond p body =>
        obtain ⟨o1, a1, s1, o2, hb, h2, _⟩ := ops_cond_inv h
        obtain ⟨u2, rfl, rfl, hu2⟩ := ih _ _ _ _ _ _ Ls hrest h2
        rcases hb with ⟨_, h1⟩ | ⟨_, _, rfl, rfl⟩
        · obtain ⟨u1, rfl, rfl, hu1⟩ := ih _ _ _ _ _ _ Ls (fun x hx => hL x (List.mem_append_left _ hx)) h1
          exact ⟨u1 ++ u2, by simp, by simp, fun en hen => (List.mem_append.mp hen).elim (hu1 en) (hu2 en)⟩
        · exact ⟨u2, rfl, rfl, hu2⟩
      | rep cap n body =>
        rcases ops_rep_inv h with ⟨_, h2⟩ | ⟨k, o1, a1, s1, o2, _, h1, h2, _⟩
        · exact ih _ _ _ _ _ _ Ls hrest h2
        · obtain ⟨u1, rfl, rfl, hu1⟩ := ih _ _ _ _ _ _ Ls (fun x hx => hL x (List.mem_append_left _ hx)) h1
          obtain ⟨u2, rfl, rfl, hu2⟩ := ih (.rep k (fun _ => k) body :: rest) _ _ _ _ _ Ls hL h2
          exact ⟨u1 ++ u2, by simp, by simp, fun en hen => (List.mem_append.mp hen).elim (hu1 en) (hu2 en)⟩
      | seterr p => exact ih _ _ _ _ _ _ Ls hrest (ops_guard_inv (.inl rfl) h).2
      | abort p => exact ih _ _ _ _ _ _ Ls hrest (ops_guard_inv (.inr rfl) h).2

theorem ops_stopped_prefix {f : Nat} {L : List Syn} {acc src : Trace} {os acc' src'}
    (h : ops f L acc src = some (os, acc', src')) (hst : stopped acc' = false) : stopped acc = false := by
  obtain ⟨u, _, rfl, _⟩ := ops_used f L acc src os acc' src' _ (fun _ h => h) h
  simp only [stopped, List.any_append, Bool.or_eq_false_iff] at hst
  exact hst.1

theorem ops_acc_eq {f : Nat} {L : List Syn} {acc tr : Trace} {os a}
    (h : ops f L acc tr = some (os, a, [])) : a = acc ++ tr := by
  obtain ⟨used, hu1, hu2, _⟩ := ops_used f L acc tr os a [] _ (fun _ h => h) h
  simp at hu1
  rw [hu2, hu1]

theorem Trace.get_append_not_mem (acc u : Trace) (x : String) (hu : ∀ en ∈ u, en.1 ≠ x) :
    Trace.get (acc ++ u) x = Trace.get acc x := by
  unfold Trace.get
  rw [List.reverse_append, List.find?_append]
  have : u.reverse.find? (·.1 == x) = none := by
    rw [List.find?_eq_none]
    intro en hen
    simp at hen
    simpa using hu en hen
  rw [this]; rfl

theorem Trace.get_snoc_same (acc : Trace) (x : String) (v : Int) : Trace.get (acc ++ [(x, v)]) x = v := by
  simp [Trace.get]

theorem Trace.get_snoc_ne (acc : Trace) (x y : String) (v : Int) (h : y ≠ x) :
    Trace.get (acc ++ [(y, v)]) x = Trace.get acc x :=
  Trace.get_append_not_mem acc [(y, v)] x (by simpa using h)

theorem Trace.get_nil (x : String) : Trace.get [] x = 0 := rfl

theorem Trace.get_flag (t : Trace) (x : String) (h : ∀ en ∈ t, en.1 = x → en.2 = 0 ∨ en.2 = 1) :
    Trace.get t x = 0 ∨ Trace.get t x = 1 := by
  unfold Trace.get
  cases hf : t.reverse.find? (·.1 == x) with
  | none => left; rfl
  | some en =>
    have hm := List.mem_of_find?_eq_some hf
    have hp := List.find?_some hf
    simp at hm hp
    exact h en hm hp

/-- for several names at once, so that the syntax is gone through once -/
theorem ops_get_stable (xs : List String) {f : Nat} {L : List Syn} {acc src : Trace} {os acc' src'}
    (h : ops f L acc src = some (os, acc', src'))
    (hm : (leavesL L).all (fun s => xs.all (s.name? != some ·)) = true) :
    ∀ x ∈ xs, Trace.get acc' x = Trace.get acc x := by
  obtain ⟨u, _, rfl, hu⟩ := ops_used f L acc src os acc' src' _ (fun _ h => h) h
  refine fun x hx => Trace.get_append_not_mem acc u x fun en hen hxe => ?_
  obtain ⟨s, hs, hn, _⟩ := hu en hen
  simpa [hn, hxe] using List.all_eq_true.mp (List.all_eq_true.mp hm s hs) x hx

theorem ops_get_flag (x : String) {f : Nat} {L : List Syn} {src : Trace} {os acc' src'}
    (h : ops f L [] src = some (os, acc', src'))
    (hm : (leavesL L).all (fun s => s matches .flag _ || s.name? != some x) = true) :
    Trace.get acc' x = 0 ∨ Trace.get acc' x = 1 := by
  obtain ⟨u, _, rfl, hu⟩ := ops_used f L [] src os acc' src' _ (fun _ h => h) h
  refine Trace.get_flag _ x fun en hen hx => ?_
  obtain ⟨s, hs, hn, hv⟩ := hu en (by simpa using hen)
  have hf := List.all_eq_true.mp hm s hs
  simp only [hn, hx, bne_self_eq_false, Bool.or_false] at hf
  cases s <;> cases hf
  simp only [Syn.op, Op.value] at hv
  split at hv <;> omega

end Mp4ff.BitSyn
