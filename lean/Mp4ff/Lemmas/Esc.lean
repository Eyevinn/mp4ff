import Mp4ff.Model.Bits
import Mp4ff.Lemmas.Bytes
/-!
Emulation prevention on bytes: `esc` / `unesc` of `Model/Bits.lean` (`z` = number of zero bytes immediately before, 0..2).
Un-escaping inverts escaping, the escaped stream has no `00 00 0x` with `x ≤ 2`, and a byte is inserted exactly where two
zeros meet a byte ≤ 3.
-/
namespace Mp4ff.Bits

theorem esc_append (a b : Bytes) : ∀ z, esc z (a ++ b) = esc z a ++ esc (escState z a) b := by
  induction a with
  | nil => intro z; simp [esc, escState]
  | cons x xs ih =>
    intro z
    simp only [List.cons_append, esc, escState]
    split <;> simp [ih]

theorem escState_append (a b : Bytes) : ∀ z, escState z (a ++ b) = escState (escState z a) b := by
  induction a with
  | nil => intro z; simp [escState]
  | cons x xs ih =>
    intro z
    simp only [List.cons_append, escState]
    split <;> simp [ih]

/-- the zero-run state stays in 0..2: a byte that would make it three zeros is escaped first -/
theorem escNext_le {z b : Nat} (hz : z ≤ 2) (h : ¬ (z = 2 ∧ b ≤ 3)) : (if b = 0 then z + 1 else 0) ≤ 2 := by
  split <;> omega

theorem escState_le (a : Bytes) : ∀ z, z ≤ 2 → escState z a ≤ 2 := by
  induction a with
  | nil => intro z h; exact h
  | cons x xs ih =>
    intro z hz
    unfold escState
    split
    · exact ih _ (by split <;> omega)
    · exact ih _ (escNext_le hz ‹_›)

theorem esc_isBytes (a : Bytes) (ha : IsBytes a) : ∀ z, IsBytes (esc z a) := by
  induction a with
  | nil => intro z b hb; simp [esc] at hb
  | cons x xs ih =>
    intro z
    have hx : x < 256 := ha x (by simp)
    unfold esc
    split
    · exact List.forall_mem_cons.2 ⟨by decide, List.forall_mem_cons.2 ⟨hx, ih ha.tail _⟩⟩
    · exact List.forall_mem_cons.2 ⟨hx, ih ha.tail _⟩

theorem unesc_esc (bs : Bytes) : ∀ z, z ≤ 2 → unesc z (esc z bs) = bs := by
  induction bs with
  | nil => intro z _; rfl
  | cons b bs ih =>
    intro z hz
    unfold esc
    split
    · rename_i h
      have h1 : (if b = 0 then 1 else 0) ≤ 2 := by split <;> omega
      rw [unesc, if_pos ⟨h.1, rfl⟩, ih _ h1]
    · rename_i h
      have hne : ¬ (z = 2 ∧ b = 3) := fun ⟨h1, h2⟩ => h ⟨h1, by omega⟩
      unfold unesc
      rw [if_neg hne, ih _ (escNext_le hz h)]

/-- `z` zero bytes precede; forbidden = 00 00 followed by a byte ≤ 2 -/
def NoForbidden : Nat → Bytes → Prop
  | _, [] => True
  | z, b :: bs => ¬ (2 ≤ z ∧ b ≤ 2) ∧ NoForbidden (if b = 0 then z + 1 else 0) bs

theorem esc_noForbidden (bs : Bytes) : ∀ z, z ≤ 2 → NoForbidden z (esc z bs) := by
  induction bs with
  | nil => intro z _; trivial
  | cons b bs ih =>
    intro z hz
    unfold esc
    split
    · -- 03 after two zeros, then `b` after a non-zero byte
      rename_i h
      have h1 : (if b = 0 then 1 else 0) ≤ 2 := by split <;> omega
      exact ⟨by omega, by simp only [show ¬ ((3:Nat) = 0) by decide, if_false]; exact ⟨by omega, ih _ h1⟩⟩
    · rename_i h
      exact ⟨by omega, ih _ (escNext_le hz h)⟩

theorem NoForbidden.window (l : Bytes) : ∀ z, NoForbidden z l →
    ∀ i, i + 2 < l.length → ¬ (l[i]! = 0 ∧ l[i+1]! = 0 ∧ l[i+2]! ≤ 2) := by
  induction l with
  | nil => intro z _ i hi; simp at hi
  | cons b bs ih =>
    intro z h i hi
    cases i with
    | succ j => exact ih _ h.2 j (Nat.lt_of_succ_lt_succ hi)
    | zero =>
      rcases bs with _ | ⟨c, _ | ⟨d, ds⟩⟩
      · exact absurd hi (by simp)
      · exact absurd hi (by simp)
      obtain ⟨_, _, h3⟩ := h
      rintro ⟨hb0, hb1, hb2⟩
      simp only [List.getElem!_cons_zero, List.getElem!_cons_succ] at hb0 hb1 hb2
      subst hb0 hb1
      exact h3.1 ⟨by simp, hb2⟩

/-- no 00 00 0{0..3} (`z` zero bytes precede): such a payload is left unchanged (`esc_clean`) -/
def Clean : Nat → Bytes → Prop
  | _, [] => True
  | z, b :: bs => ¬ (z = 2 ∧ b ≤ 3) ∧ Clean (if b = 0 then z + 1 else 0) bs

theorem esc_clean (bs : Bytes) : ∀ z, Clean z bs → esc z bs = bs := by
  induction bs with
  | nil => intro z _; rfl
  | cons b bs ih =>
    intro z ⟨h1, h2⟩
    simp only [esc, h1, if_false]
    rw [ih _ h2]

/-- the number of positions where the two-zeros state meets a byte ≤ 3: the output is longer than the input by exactly
    that many bytes (`esc_length`), so an 03 is inserted there and nowhere else -/
def escCount : Nat → Bytes → Nat
  | _, [] => 0
  | z, b :: bs =>
    if z = 2 ∧ b ≤ 3 then 1 + escCount (if b = 0 then 1 else 0) bs
    else escCount (if b = 0 then z + 1 else 0) bs

theorem esc_length (bs : Bytes) : ∀ z, (esc z bs).length = bs.length + escCount z bs := by
  induction bs with
  | nil => intro z; rfl
  | cons b bs ih =>
    intro z
    simp only [esc, escCount]
    split <;> simp [ih] <;> omega

end Mp4ff.Bits
