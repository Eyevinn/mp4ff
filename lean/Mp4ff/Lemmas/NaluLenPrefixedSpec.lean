import Mp4ff.Lemmas.NaluWalk
/-! The length-prefixed walkers on a well-formed sample `lenPrefixed ns`: each is `walk` with its body
(Lemmas/NaluWalk.lean), hence a fold over `ns`, and the fold is the specification.  `toByteStream` is a loop of its
own. -/
namespace Mp4ff.Nalu

def NalusOK (ns : List Bytes) : Prop := (∀ n ∈ ns, n ≠ [] ∧ IsBytes n) ∧ (lenPrefixed ns).length < U32

/-- a walker run on the whole of a well-formed sample, with the fuel the model gives it -/
theorem NalusOK.walk_eq_unitFold {σ ρ : Type} (step : σ → Nat → Bool → Bytes → ρ ⊕ σ) (done : σ → ρ)
    (ns : List Bytes) (h : NalusOK ns) (st : σ) :
    walk (lenPrefixed ns) step done ((lenPrefixed ns).length + 1) 0 st =
      unitFold (onUnit step) done ns st :=
  walk_lenPrefixed _ step done ns [] _ st rfl h.2 (fun n hn => (h.1 n hn).1)
    (Nat.succ_le_succ (length_le_lenPrefixed ns))

theorem nalusFromSample_lenPrefixed (ns : List Bytes) (h : NalusOK ns) (hne : ns ≠ []) :
    nalusFromSample (lenPrefixed ns) = some ns := by
  rw [nalusFromSample, if_neg (lenPrefixed_length_ge hne), nalusFromSample_go_eq, NalusOK.walk_eq_unitFold _ _ ns h]
  suffices ∀ acc, unitFold (onUnit nalusFromSampleStep) some ns acc = some (acc ++ ns) from this []
  clear h hne
  induction ns with
  | nil => intro acc; simp [unitFold]
  | cons n rest ih => intro acc; simp [unitFold, onUnit, nalusFromSampleStep, ih]

theorem naluTypes_lenPrefixed (c : Codec) (ns : List Bytes) (h : NalusOK ns) :
    naluTypes c false (lenPrefixed ns) = ns.map (fun n => c.typeOf (n.headD 0)) := by
  rw [naluTypes_eq_walk, NalusOK.walk_eq_unitFold _ _ ns h]
  suffices ∀ acc, unitFold (onUnit (naluTypesStep c false)) id ns acc =
      acc ++ ns.map (fun n => c.typeOf (n.headD 0)) from this []
  clear h
  induction ns with
  | nil => intro acc; simp [unitFold]
  | cons n rest ih => intro acc; simp [unitFold, onUnit, naluTypesStep, ih]

/-- types up to and including the first video unit -/
def typesUpTo (c : Codec) : List Bytes → List Nat
  | [] => []
  | n :: rest => let t := c.typeOf (n.headD 0); if c.isVideo t then [t] else t :: typesUpTo c rest

-- The case hypotheses below (`hv`, `hp`) name a unit's first byte `n.headD 0`, as the specifications do; simp is to
-- leave it as it is (its normal form is `n.head?.getD 0`).
attribute [-simp] List.headD_eq_head?_getD

theorem naluTypesUpTo_lenPrefixed (c : Codec) (ns : List Bytes) (h : NalusOK ns) :
    naluTypes c true (lenPrefixed ns) = typesUpTo c ns := by
  rw [naluTypes_eq_walk, NalusOK.walk_eq_unitFold _ _ ns h]
  suffices ∀ acc, unitFold (onUnit (naluTypesStep c true)) id ns acc = acc ++ typesUpTo c ns from this []
  clear h
  induction ns with
  | nil => intro acc; simp [unitFold, typesUpTo]
  | cons n rest ih =>
    intro acc
    by_cases hv : c.isVideo (c.typeOf (n.headD 0)) = true <;>
      simp [unitFold, onUnit, naluTypesStep, typesUpTo, hv, ih]

theorem containsType_lenPrefixed (c : Codec) (ns : List Bytes) (h : NalusOK ns) (t : Nat) :
    containsType c (lenPrefixed ns) t = (ns.map (fun n => c.typeOf (n.headD 0))).contains t := by
  rw [containsType, containsType_go_eq, NalusOK.walk_eq_unitFold _ _ ns h]
  clear h
  induction ns with
  | nil => rfl
  | cons n rest ih =>
    by_cases hv : c.typeOf (n.headD 0) = t
    · simp [unitFold, onUnit, containsTypeStep, hv]
    · simp [unitFold, onUnit, containsTypeStep, hv, Ne.symm hv, ih]

/-- parameter sets before the first video unit -/
def psSpec (c : Codec) (isPS : Nat → Bool) : List Bytes → List (Nat × Bytes)
  | [] => []
  | n :: rest =>
    let t := c.typeOf (n.headD 0)
    if isPS t then (t, n) :: psSpec c isPS rest
    else if c.isVideo t then [] else psSpec c isPS rest

theorem paramSets_lenPrefixed (c : Codec) (isPS : Nat → Bool) (ns : List Bytes) (h : NalusOK ns) :
    paramSets c isPS (lenPrefixed ns) = psSpec c isPS ns := by
  rw [paramSets, paramSets_go_eq, NalusOK.walk_eq_unitFold _ _ ns h]
  suffices ∀ acc, unitFold (onUnit (paramSetsStep c isPS)) id ns acc = acc ++ psSpec c isPS ns from this []
  clear h
  induction ns with
  | nil => intro acc; simp [unitFold, psSpec]
  | cons n rest ih =>
    intro acc
    by_cases hp : isPS (c.typeOf (n.headD 0)) = true <;> by_cases hv : c.isVideo (c.typeOf (n.headD 0)) = true <;>
      simp [unitFold, onUnit, paramSetsStep, psSpec, hp, hv, ih]

/-- `ConvertSampleToByteStream` is not a `walk`: it rewrites the bytes it walks over, and runs while
    `pos + 4 ≤ length` -/
theorem toByteStream_go_spec : ∀ (rest : List Bytes) (pre : Bytes) (fuel : Nat),
    (pre ++ lenPrefixed rest).length < U32 → (∀ n ∈ rest, n ≠ []) → rest.length + 1 ≤ fuel →
    toByteStream fuel (pre ++ lenPrefixed rest) pre.length = pre ++ annexB (rest.map fun n => (4, n))
  | _, _, 0, _, _, hf => nomatch hf
  | [], pre, fuel + 1, _, _, _ => by
    rw [toByteStream, if_neg (by simp [lenPrefixed])]
    simp [lenPrefixed, annexB]
  | n :: rest, pre, fuel + 1, hlt, hne, hf => by
    have hu := unitAt_of_eq _ pre n rest rfl hlt (hne n (List.mem_cons_self ..))
    have hpatch : patch4 (pre ++ lenPrefixed (n :: rest)) pre.length [0, 0, 0, 1]
        = (pre ++ [0, 0, 0, 1] ++ n) ++ lenPrefixed rest := by
      simp [patch4, lenPrefixed_cons, put32_eq]
    have hl : (pre ++ ([0, 0, 0, 1] : Bytes) ++ n).length = pre.length + 4 + n.length := by
      rw [List.length_append, List.length_append]; rfl
    rw [toByteStream, if_pos (Nat.le_of_lt hu.header_lt), hu.be32, if_neg hu.not_over, hpatch, ← hl,
      toByteStream_go_spec rest _ fuel
        (by simp only [lenPrefixed_cons, List.length_append, put32_length, Nat.add_assoc] at hlt ⊢; exact hlt)
        (fun m hm => hne m (List.mem_cons_of_mem _ hm)) (Nat.le_of_succ_le_succ hf)]
    simp [annexB, startCode]

theorem toByteStream_lenPrefixed (ns : List Bytes) (h : NalusOK ns) :
    toByteStream ((lenPrefixed ns).length + 1) (lenPrefixed ns) 0 = annexB (ns.map fun n => (4, n)) :=
  toByteStream_go_spec ns [] _ h.2 (fun n hn => (h.1 n hn).1) (Nat.succ_le_succ (length_le_lenPrefixed ns))

end Mp4ff.Nalu
