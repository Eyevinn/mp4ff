import Mp4ff.Lemmas.BitsOps
import Mp4ff.Lemmas.RbspTrailing
/-!
SEI NAL payload framing (`WriteSEIMessages` / `ExtractSEIData`). A byte-aligned plain writer appends bytes and the EBSP
writer produces their escaping, so what is written is the escaped form of the messages' bytes and 0x80 (`writeSEI_eq`); the
reader's loops are specified by `ER.Reads` on the bits of those bytes (`readFFValue_value`, `readBytes_spec`).
-/
namespace Mp4ff.Bits

/-- byte-aligned plain writer that has handed out exactly `bs` -/
def BW.Aligned (w : BW) (bs : Bytes) : Prop := w.Inv ∧ w.n = 0 ∧ w.out = bs

theorem BW.Aligned.of_abs {w w' : BW} {bs l : Bytes} (h : w.Aligned bs) (hi : w'.Inv) (hn : w'.n = 0)
    (hl : IsBytes l) (habs : w'.abs = w.abs ++ bitsOfBytes l) : w'.Aligned (bs ++ l) := by
  obtain ⟨hw, hn0, rfl⟩ := h
  refine ⟨hi, hn, bitsOfBytes_inj hi.bytes (hw.bytes.append hl) ?_⟩
  rw [BW.abs, hn, BW.abs, hn0] at habs
  simpa [bitsOfBytes_append, lowBits] using habs

theorem BW.Aligned.write8 {w : BW} {bs : Bytes} (h : w.Aligned bs) (b : Nat) (hb : b < 256) :
    (w.write b 8).Aligned (bs ++ [b]) := by
  have hs := BW.write_spec w b 8 h.1 (by decide)
  refine h.of_abs hs.1 (by rw [BW.write_n, h.2.1]) (List.forall_mem_singleton.2 hb) ?_
  rw [hs.2]; simp [bitsOfBytes]

theorem BW.Aligned.trailing {w : BW} {bs : Bytes} (h : w.Aligned bs) :
    w.trailing.Aligned (bs ++ [0x80]) := by
  have h1 := BW.write_spec w 1 1 h.1 (by decide)
  have hn1 : (w.write 1 1).n = 1 := by rw [BW.write_n, h.2.1]
  have h2 := BW.write_spec (w.write 1 1) 0 7 h1.1 (by decide)
  have ht : w.trailing = (w.write 1 1).write 0 7 := by simp [BW.trailing, hn1]
  rw [ht]
  refine h.of_abs h2.1 (by rw [BW.write_n, hn1]) (List.forall_mem_singleton.2 (by decide)) ?_
  rw [h2.2, h1.2, List.append_assoc]; rfl

theorem BW.Aligned.init : ({} : BW).Aligned [] := ⟨BW.init_inv, rfl, rfl⟩

/-- EBSP writer in a byte-aligned state whose un-escaped output is `bs` -/
def EW.Aligned (e : EW) (bs : Bytes) : Prop := ∃ w : BW, EWRel e w ∧ w.Aligned bs

theorem EW.Aligned.init : ({} : EW).Aligned [] := ⟨{}, EWRel.init, BW.Aligned.init⟩

theorem EW.Aligned.write8 {e : EW} {bs : Bytes} (h : e.Aligned bs) (b : Nat) (hb : b < 256) :
    (e.write b 8).Aligned (bs ++ [b]) := by
  obtain ⟨w, hr, ha⟩ := h
  exact ⟨w.write b 8, EWRel.write e w hr b 8, ha.write8 b hb⟩

theorem EW.Aligned.trailing {e : EW} {bs : Bytes} (h : e.Aligned bs) :
    e.writeRbspTrailingBits.out = esc 0 (bs ++ [0x80]) := by
  obtain ⟨w, hr, ha⟩ := h
  have h1 := EWRel.trailing e w hr
  have h2 := ha.trailing
  rw [h1.out_eq, h2.2.2]

theorem EW.Aligned.writeBytes {bs : Bytes} (pl : Bytes) : ∀ {e : EW}, e.Aligned bs → IsBytes pl →
    (pl.foldl (fun w b => w.write b 8) e).Aligned (bs ++ pl) := by
  induction pl generalizing bs with
  | nil => intro e h _; simpa using h
  | cons b pl ih =>
    intro e h hp
    simp only [List.foldl_cons]
    have := ih (h.write8 b (hp b (by simp))) hp.tail
    simpa using this

end Mp4ff.Bits

namespace Mp4ff.Sei
open Mp4ff.Bits

/-- the bytes `WriteSEIValue` produces -/
def seiValueBytes (v : Nat) : Bytes := List.replicate (v / 255) 0xff ++ [v % 255]

theorem seiValueBytes_isBytes (v : Nat) : IsBytes (seiValueBytes v) := by
  intro x hx
  simp only [seiValueBytes, List.mem_append, List.mem_replicate, List.mem_singleton] at hx
  omega

theorem seiValueBytes_of_ge (v : Nat) (h : v ≥ 255) : seiValueBytes v = 0xff :: seiValueBytes (v - 255) := by
  unfold seiValueBytes
  rw [Nat.div_eq_sub_div (by decide) h, Nat.mod_eq_sub_mod h, List.replicate_succ]
  rfl

theorem seiValueBytes_of_lt (v : Nat) (h : ¬ v ≥ 255) : seiValueBytes v = [v] := by
  unfold seiValueBytes
  rw [show v / 255 = 0 by omega, show v % 255 = v by omega]
  rfl

theorem EW.Aligned.writeSEIValue (v : Nat) : ∀ {e : EW} {bs : Bytes}, e.Aligned bs →
    (e.writeSEIValue v).Aligned (bs ++ seiValueBytes v) := by
  induction v using Nat.strongRecOn with
  | _ v ih =>
    intro e bs h
    unfold EW.writeSEIValue
    by_cases hv : v ≥ 255
    · simp only [hv, dite_true]
      have := ih (v - 255) (by omega) (h.write8 0xff (by decide))
      rw [seiValueBytes_of_ge v hv]
      simpa using this
    · simp only [hv, dite_false]
      rw [seiValueBytes_of_lt v hv]
      exact h.write8 v (by omega)

/-- un-escaped bytes of one message -/
def msgBytes (m : Msg) : Bytes := seiValueBytes m.type ++ (seiValueBytes m.payload.length ++ m.payload)

def msgsBytes : List Msg → Bytes
  | [] => []
  | m :: ms => msgBytes m ++ msgsBytes ms

theorem writeSEI_fold (msgs : List Msg) (hok : ∀ m ∈ msgs, IsBytes m.payload) : ∀ {e : EW} {bs : Bytes},
    e.Aligned bs →
    (msgs.foldl (fun (w : EW) m =>
      let w := w.writeSEIValue m.type
      let w := w.writeSEIValue m.payload.length
      m.payload.foldl (fun w b => w.write b 8) w) e).Aligned (bs ++ msgsBytes msgs) := by
  induction msgs with
  | nil => intro e bs h; simpa [msgsBytes] using h
  | cons m ms ih =>
    intro e bs h
    simp only [List.foldl_cons]
    have h1 := EW.Aligned.writeSEIValue m.type h
    have h2 := EW.Aligned.writeSEIValue m.payload.length h1
    have h3 := EW.Aligned.writeBytes m.payload h2 (hok m (by simp))
    have := ih (fun x hx => hok x (by simp [hx])) h3
    simpa [msgsBytes, msgBytes] using this

theorem writeSEI_eq (msgs : List Msg) (hok : ∀ m ∈ msgs, IsBytes m.payload) :
    writeSEI msgs = esc 0 (msgsBytes msgs ++ [0x80]) := by
  unfold writeSEI
  have := writeSEI_fold msgs hok EW.Aligned.init
  simpa using this.trailing

open Dec in
theorem readFFValue_spec (wrap : Nat) : ∀ (fuel v acc : Nat), acc + v < wrap → v / 255 + 1 ≤ fuel →
    ER.Reads (fun e => readFFValue wrap fuel e acc) (bitsOfBytes (seiValueBytes v)) (acc + v) := by
  intro fuel
  induction fuel with
  | zero => exact fun _ _ _ hf => nomatch hf
  | succ f ih =>
    intro v acc hw hf
    have : (fun e => readFFValue wrap (f + 1) e acc) = ((·.read 8) >>= fun b =>
        if b ≠ 0xff then pure ((acc + b) % wrap) else (readFFValue wrap f · ((acc + b) % wrap)) : ER.Dec Nat) := by
      funext e
      simp only [readFFValue, Dec.bind_apply, Dec.ite_apply, Dec.pure_apply]
    rw [this]
    by_cases hv : v ≥ 255
    · rw [seiValueBytes_of_ge v hv, bitsOfBytes]
      refine (ER.reads_field (k := 8) (v := 255) (by decide) (by decide)).bind ?_
      have e : acc + v = acc + 255 + (v - 255) := by rw [Nat.add_assoc, Nat.add_sub_cancel' hv]
      rw [Nat.div_eq_sub_div (by decide) hv] at hf
      rw [if_neg (by decide), Nat.mod_eq_of_lt (Nat.lt_of_le_of_lt (Nat.add_le_add_left hv acc) hw), e]
      exact ih _ _ (e ▸ hw) (Nat.le_of_succ_le_succ hf)
    · rw [seiValueBytes_of_lt v hv]
      have hv := Nat.not_le.1 hv
      refine (ER.reads_field (k := 8) (v := v) (Nat.lt_succ_of_lt hv) (by decide)).bind ?_
      rw [if_pos (Nat.ne_of_lt hv), Nat.mod_eq_of_lt hw]
      exact .pure rfl

theorem readFFValue_value (wrap v : Nat) (hv : v < wrap) :
    ER.Reads (fun e => readFFValue wrap (e.bitsLeft / 8 + 2) e 0) (bitsOfBytes (seiValueBytes v)) v := by
  intro e P tail he habs
  have hlen := he.abs_length_le
  have hfuel : v / 255 + 1 ≤ e.bitsLeft / 8 + 2 := by
    simp only [habs, seiValueBytes, List.length_append, bitsOfBytes_length, List.length_replicate,
      List.length_cons] at hlen
    omega
  have := readFFValue_spec wrap _ v 0 (by omega) hfuel he habs
  rwa [Nat.zero_add] at this

theorem readBytes_spec : ∀ (pl acc : Bytes), IsBytes pl →
    ER.Reads (fun e => ER.readBytes pl.length e acc) (bitsOfBytes pl) (acc ++ pl) := by
  intro pl
  induction pl with
  | nil => intro acc _; rw [List.append_nil]; exact .pure rfl
  | cons b pl ih =>
    intro acc hpl
    have hb : b < 256 := hpl b (by simp)
    refine (ER.reads_field (k := 8) hb (by decide)).bind (f := fun x => (ER.readBytes pl.length · (acc ++ [x % 256]))) ?_
    rw [Nat.mod_eq_of_lt hb, List.append_cons acc b pl]
    exact ih _ hpl.tail

theorem moreRbspData_last {e : ER} {P : Bytes} (he : e.Inv P) (habs : e.abs P = bitsOfBytes [0x80]) :
    moreRbspData e = (e, false) :=
  moreRbspData_spec e P true (List.replicate 7 false) he habs

theorem moreRbspData_more {e : ER} {P : Bytes} (Q : Bytes) (hQ : Q ≠ []) (he : e.Inv P)
    (habs : e.abs P = bitsOfBytes (Q ++ [0x80])) : moreRbspData e = (e, true) := by
  obtain ⟨b, Q, rfl⟩ := List.exists_cons_of_ne_nil hQ
  -- the first bit of `b` decides; if it is 1, the stop bit of the trailing byte is another 1 further on
  have habs' : e.abs P = b.testBit 7 :: (lowBits 7 b ++ (bitsOfBytes Q ++ true :: List.replicate 7 false)) := by
    rw [habs, List.cons_append, bitsOfBytes, bitsOfBytes_append]; rfl
  rw [moreRbspData_spec e _ _ _ he habs']
  cases b.testBit 7 <;> simp

def MsgOK (m : Msg) : Prop := m.type < 2 ^ 32 ∧ m.payload.length < 2 ^ 32 ∧ IsBytes m.payload

theorem MsgOK.bytes {m : Msg} (h : MsgOK m) : IsBytes m.payload := h.2.2

theorem msgsBytes_length_ge (ms : List Msg) : 2 * ms.length ≤ (msgsBytes ms).length := by
  induction ms with
  | nil => simp [msgsBytes]
  | cons m ms ih =>
    simp only [msgsBytes, msgBytes, seiValueBytes, List.length_append, List.length_cons, List.length_replicate,
      List.length_nil]
    omega

theorem msgsBytes_isBytes (ms : List Msg) (hok : ∀ m ∈ ms, MsgOK m) : IsBytes (msgsBytes ms) := by
  induction ms with
  | nil => intro b hb; simp [msgsBytes] at hb
  | cons m ms ih =>
    simp only [msgsBytes, msgBytes]
    exact ((seiValueBytes_isBytes _).append ((seiValueBytes_isBytes _).append (hok m (by simp)).bytes)).append
      (ih fun x hx => hok x (by simp [hx]))

theorem extractSEI_go_spec : ∀ (fuel : Nat) (ms : List Msg) (m : Msg) (e : ER) (P : Bytes) (acc : List Msg),
    (∀ x ∈ m :: ms, MsgOK x) → e.Inv P → e.abs P = bitsOfBytes (msgsBytes (m :: ms) ++ [0x80]) → ms.length + 1 ≤ fuel →
    extractSEI.go fuel e acc = (acc ++ m :: ms, none) := by
  intro fuel
  induction fuel with
  | zero => intro ms m e P acc _ _ _ hf; omega
  | succ f ih =>
    intro ms m e P acc hok he habs hf
    obtain ⟨hty, hsz, hpl⟩ := hok m (by simp)
    -- one message: type, payload length, payload; `e3` stands in front of the rest
    simp only [msgsBytes, msgBytes, List.append_assoc, bitsOfBytes_append (seiValueBytes _),
      bitsOfBytes_append m.payload] at habs
    obtain ⟨e1, P1, q1, i1, a1, -⟩ := readFFValue_value W64 m.type (Nat.lt_trans hty (by unfold W64; decide)) he habs
    obtain ⟨e2, P2, q2, i2, a2, -⟩ := readFFValue_value (2 ^ 32) m.payload.length hsz i1 a1
    obtain ⟨e3, P3, q3, i3, a3, -⟩ := readBytes_spec m.payload [] hpl i2 a2
    cases ms with
    | nil => simp [extractSEI.go, q1, q2, i2.err, q3, i3.err, moreRbspData_last i3 a3]
    | cons m' ms =>
      have hmore := moreRbspData_more (msgsBytes (m' :: ms)) (by simp [msgsBytes, msgBytes, seiValueBytes]) i3 a3
      have hi := ih ms m' e3 P3 (acc ++ [m]) (fun x hx => hok x (by simp [hx])) i3 a3
        (by simp only [List.length_cons] at hf; omega)
      simp [extractSEI.go, q1, q2, i2.err, q3, i3.err, hmore, hi]

theorem sei_framing (msgs : List Msg) (hne : msgs ≠ []) (hok : ∀ m ∈ msgs, MsgOK m) :
    extractSEI (writeSEI msgs) = (msgs, none) := by
  rw [writeSEI_eq msgs fun m hm => (hok m hm).bytes]
  cases msgs with
  | nil => exact absurd rfl hne
  | cons m ms =>
    unfold extractSEI
    have he : ({ rest := esc 0 (msgsBytes (m :: ms) ++ [0x80]) } : ER).Inv (msgsBytes (m :: ms) ++ [0x80]) :=
      ER.init_spec ((msgsBytes_isBytes _ hok).append (List.forall_mem_singleton.2 (by decide)))
    have hlen : ms.length + 1 ≤ (esc 0 (msgsBytes (m :: ms) ++ [0x80])).length + 1 := by
      have := msgsBytes_length_ge (m :: ms)
      rw [esc_length]
      simp only [List.length_append, List.length_cons] at this ⊢
      omega
    have := extractSEI_go_spec _ ms m _ _ [] hok he (List.nil_append _) hlen
    simpa using this

end Mp4ff.Sei
