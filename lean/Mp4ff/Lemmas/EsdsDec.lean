import Mp4ff.Lemmas.EsdsBase
/-!
What every run of the esds decoder guarantees, on any input, as a postcondition on its result (`Post`): an answer is
exact, i.e. at least its weight was consumed (2 bytes per descriptor plus all variable-length content) and, when the
reader ends free of error, exactly its encoding (`Step`; `Run` for descriptors); and the error is `.fuel` only if the
reader held at least as many bytes as there was fuel.  One walk over the paths of each decoder shows both: first for any
`dec` that is `Sound` (the loops, `decodeDC` and `decodeES` take `DecodeDescriptor` as a parameter), then for
`decodeDescriptor n` by induction on `n`; `decodeEsdsFuel_run` is the box level.
-/
namespace Mp4ff.Esds

mutual
/-- bytes a decoded descriptor holds: 2 per descriptor node (tag + at least one size byte) + all variable-length
    content -/
def Desc.weight : Desc → Nat
  | .dc h others =>
      2 + (match h.dsi with | none => 0 | some (_, x) => 2 + x.length) + weights others + h.unk.length
  | .dsi _ x => 2 + x.length
  | .sl _ _ m => 2 + m.length
  | .raw _ _ x => 2 + x.length
def weights : List Desc → Nat
  | [] => 0
  | d :: ds => d.weight + weights ds
end

def ES.weight (e : ES) : Nat :=
  2 + e.url.length + (Desc.dc e.dc e.dcOthers).weight + (match e.sl with | none => 0 | some (_, _, m) => 2 + m.length)
    + weights e.others + e.unk.length

theorem weight_ge (d : Desc) : 2 ≤ d.weight := by
  cases d <;> rw [Desc.weight] <;> omega

theorem weights_append (a b : List Desc) : weights (a ++ b) = weights a + weights b := by
  induction a with
  | nil => rw [List.nil_append, weights, Nat.zero_add]
  | cons d ds ih => rw [List.cons_append, weights, weights, ih, Nat.add_assoc]

def dsiWeight : Option (Nat × Bytes) → Nat
  | none => 0
  | some (_, x) => 2 + x.length

theorem Desc.weight_dc (h : DcHdr) (o : List Desc) :
    (Desc.dc h o).weight = 2 + dsiWeight h.dsi + weights o + h.unk.length := by
  rw [Desc.weight]; rfl

def slWeight : Option (Nat × Nat × Bytes) → Nat
  | none => 0
  | some (_, _, m) => 2 + m.length

theorem ES.weight_eq (e : ES) : e.weight
    = 2 + e.url.length + (Desc.dc e.dc e.dcOthers).weight + slWeight e.sl + weights e.others + e.unk.length := by
  rw [ES.weight]; rfl

/-- a reader the exactness statements speak about: it holds bytes, and its positions fit an `int` -/
def Rd.OK (s : Rd) : Prop := IsBytes s.rest ∧ s.pos + s.rest.length < 2 ^ 63

theorem Consumed.ok {s s' : Rd} {b : Bytes} (h : Consumed s s' b) (hs : s.OK) : IsBytes b ∧ s'.OK := by
  obtain ⟨hb, hl⟩ := hs
  rw [h.1] at hb
  refine ⟨hb.of_append_left, hb.of_append_right, ?_⟩
  rw [h.2]; have := h.rest_length; omega

/-- `s'` is `s` after a step that consumed at least `w` bytes; and if `s'` is free of error then so was `s` (errors
    are sticky) and, `s` being `OK`, the step consumed exactly `b`.  (Below, readers are `s…` and steps `k…`.) -/
def Step (s s' : Rd) (b : Bytes) (w : Nat) : Prop :=
  s'.rest.length + w ≤ s.rest.length ∧ (s'.err = none → s.err = none ∧ (s.OK → Consumed s s' b))

theorem Step.refl (s : Rd) : Step s s [] 0 := ⟨Nat.le_refl _, fun h => ⟨h, fun _ => Consumed.refl s⟩⟩

theorem Step.err {s s' : Rd} {b : Bytes} {w : Nat} (h : Step s s' b w) (he : s'.err = none) : s.err = none :=
  (h.2 he).1

theorem Step.consumed {s s' : Rd} {b : Bytes} {w : Nat} (h : Step s s' b w) (he : s'.err = none) (hs : s.OK) :
    Consumed s s' b :=
  (h.2 he).2 hs

theorem Step.trans {s1 s2 s3 : Rd} {a b : Bytes} {v w : Nat} (h1 : Step s1 s2 a v) (h2 : Step s2 s3 b w) :
    Step s1 s3 (a ++ b) (v + w) := by
  refine ⟨by have := h1.1; have := h2.1; omega, fun e3 => ?_⟩
  obtain ⟨e2, c2⟩ := h2.2 e3
  obtain ⟨e1, c1⟩ := h1.2 e2
  exact ⟨e1, fun hs => (c1 hs).trans (c2 ((c1 hs).ok hs).2)⟩

theorem Step.mono {s s' : Rd} {b : Bytes} {v w : Nat} (h : Step s s' b w) (hv : v ≤ w) : Step s s' b v :=
  ⟨by have := h.1; omega, h.2⟩

theorem Step.congr {s s' : Rd} {b b' : Bytes} {w : Nat} (h : Step s s' b w) (hb : s'.err = none → b = b') :
    Step s s' b' w :=
  ⟨h.1, fun he => by rw [← hb he]; exact h.2 he⟩

theorem Consumed.step {s s' : Rd} {b : Bytes} (c : Consumed s s' b) (he : s'.err = none → s.err = none) :
    Step s s' b b.length :=
  ⟨by rw [c.rest_length]; omega, fun h => ⟨he h, fun _ => c⟩⟩

theorem readN_step {n : Nat} {s : Rd} {a : Bytes} {s' : Rd} (h : readN n s = (a, s')) : Step s s' a a.length :=
  (readN_consumed h).step fun he => (readN_ok h he).1

theorem readBytes_step {i : Int} {s : Rd} {a : Bytes} {s' : Rd} (h : readBytes i s = (a, s')) :
    Step s s' a a.length :=
  (readBytes_consumed h).step fun he => (readBytes_ok h he).1

theorem readBE_step {n : Nat} {s : Rd} {v : Nat} {s' : Rd} (h : readBE n s = (v, s')) : Step s s' (beBytes n v) 0 := by
  rw [readBE_eq] at h
  rcases hr : readN n s with ⟨a, s1⟩
  rw [hr] at h
  obtain ⟨rfl, rfl⟩ := Prod.mk.inj h
  have c := readN_consumed hr
  refine ⟨by rw [c.rest_length]; dsimp only; omega, fun he => ⟨(readN_ok hr he).1, fun hs => ?_⟩⟩
  have hl := (readN_ok hr he).2
  subst hl
  rw [beBytes_beVal a (c.ok hs).1]; exact c

theorem readBE_rest_length {n : Nat} {s : Rd} {v : Nat} {s' : Rd} (h : readBE n s = (v, s')) (he : s'.err = none) :
    s'.rest.length + n = s.rest.length := by
  rw [readBE_eq] at h
  rcases hr : readN n s with ⟨a, s1⟩
  rw [hr] at h
  obtain ⟨-, rfl⟩ := Prod.mk.inj h
  rw [(readN_consumed hr).rest_length, (readN_ok hr he).2, Nat.add_comm]

theorem beBytes_one (v : Nat) : beBytes 1 v = [v % 256] := by simp [beBytes]

/-- What is asked of the result `r` of a decoder that was started on reader `s` with fuel `n`: an answer satisfies `Q`,
    and the error is not `.fuel` unless the reader held at least `n` bytes. -/
def Post {α : Type} (n : Nat) (s : Rd) (Q : α → Rd → Prop) (r : Res α) : Prop :=
  match r with
  | (.ok a, s') => Q a s'
  | (.error e, _) => e = .fuel → n ≤ s.rest.length

theorem accErr_ne_fuel (s : Rd) : accErr s ≠ Err.fuel := by
  unfold accErr; split <;> simp

section
variable {α : Type} {n : Nat} {s : Rd} {Q : α → Rd → Prop}

theorem Post.ok {a : α} {s' : Rd} (h : Q a s') : Post n s Q (.ok a, s') := h

theorem Post.error {e : Err} {s0 : Rd} (he : e ≠ .fuel) : Post n s Q (.error e, s0) := fun h => absurd h he

/-- One link of the chains `if c then error else …` the decoders are made of.  (`split` does the same, but is an order
    of magnitude slower to check on terms of this size.) -/
theorem Post.ite {c : Prop} [Decidable c] {e : Err} {s0 : Rd} {x : Res α} (he : e ≠ .fuel)
    (hx : ¬ c → Post n s Q x) : Post n s Q (if c then (.error e, s0) else x) := by
  by_cases hc : c
  · rw [if_pos hc]; exact Post.error he
  · rw [if_neg hc]; exact hx hc

theorem Post.intro {r : Res α} (hf : r.1 ≠ .error .fuel) (hok : ∀ a s', r = (.ok a, s') → Q a s') :
    Post n s Q r := by
  rcases r with ⟨e | a, s'⟩
  · exact fun he => absurd (by rw [he]) hf
  · exact hok a s' rfl

/-- the same result seen from another reader `s0` (an earlier one, with as much more fuel) -/
theorem Post.imp {r : Res α} {m : Nat} {s0 : Rd} {Q' : α → Rd → Prop} (h : Post n s Q r)
    (hn : n ≤ s.rest.length → m ≤ s0.rest.length) (hok : ∀ a s', Q a s' → Q' a s') : Post m s0 Q' r := by
  rcases r with ⟨e | a, s'⟩
  · exact fun he => hn (h he)
  · exact hok a s' h

end

/-- `Post` for a descriptor decoder: a descriptor that was decoded weighs no more than the bytes consumed, which are
    its encoding -/
abbrev Run (n : Nat) (s : Rd) (r : Res Desc) : Prop := Post n s (fun d s' => Step s s' (encodeDesc d) d.weight) r

section
variable {dec : Rd → Int → Res Desc}

/-- what the loops and the DecoderConfig / ES descriptor decoders need of the `DecodeDescriptor` they are given -/
structure Sound (dec : Rd → Int → Res Desc) (n : Nat) : Prop where
  /-- whatever the answer, a reader that ends free of error began so (an error answer is only ever used through
      `setPos`, which keeps nothing else of its reader) -/
  sticky : ∀ s mx, (dec s mx).2.err = none → s.err = none
  run : ∀ s mx, Run n s (dec s mx)

theorem isFuel_eq_true {e : Err} (h : e.isFuel = true) : e = .fuel := by
  cases e <;> simp [Err.isFuel] at h ⊢

/-- At reader `s1` the declared size `sizeI` of the descriptor whose payload began at position `ds` is used up; `s` is
    an earlier reader inside that payload, through which the positions are known to fit an `int`. -/
def UsedUp (sizeI : Int) (ds : Nat) (s s1 : Rd) : Prop :=
  s1.err = none → s.OK → ds ≤ s.pos → sizeI = ((s1.pos - ds : Nat) : Int)

theorem UsedUp.of_left {sizeI : Int} {ds : Nat} {s : Rd} (hs1 : -2 ^ 63 ≤ sizeI) (hs2 : sizeI < 2 ^ 63)
    (hl : wrapI64 (sizeI - ((s.pos - ds : Nat) : Int)) = 0) : UsedUp sizeI ds s s := by
  intro _ hs _
  rw [wrapI64_eq] at hl; have := hs.2; omega

theorem UsedUp.of_step {sizeI : Int} {ds : Nat} {s0 s s1 : Rd} {b : Bytes} {w : Nat} (h : UsedUp sizeI ds s s1)
    (kStep : Step s0 s b w) (he : s1.err = none → s.err = none) : UsedUp sizeI ds s0 s1 := by
  intro e1 hs0 _
  have c := kStep.consumed (he e1) hs0
  exact h e1 (c.ok hs0).2 (by rw [c.2]; omega)

/-- After a failed probe the rest of the enclosing descriptor (`left` bytes by its declared size `sizeI`) is kept as
    `UnknownData`: if that read succeeds, the declared size is used up. -/
theorem keepRest_step {k : Nat} (hd : Sound dec k) {sizeI : Int} {ds : Nat} (hs1 : -2 ^ 63 ≤ sizeI)
    (hs2 : sizeI < 2 ^ 63) {s s1 s2 : Rd} {e : Err} {unk : Bytes}
    (hdec : dec s (wrapI64 (sizeI - ((s.pos - ds : Nat) : Int))) = (.error e, s1))
    (hrb : readBytes (wrapI64 (sizeI - ((s.pos - ds : Nat) : Int))) (setPos s s1) = (unk, s2)) :
    Step s s2 unk unk.length ∧ UsedUp sizeI ds s s2 := by
  have hst := readBytes_step hrb
  have hst : Step s s2 unk unk.length :=
    ⟨hst.1, fun he => ⟨hd.sticky s _ (by rw [hdec]; exact hst.err he), (hst.2 he).2⟩⟩
  refine ⟨hst, fun he hs hp => ?_⟩
  have hl := (readBytes_ok hrb he).2
  have c := hst.consumed he hs
  have := c.rest_length; have := hs.2
  -- the truncated subtractions are made integer ones first: `omega` is slow when it has to split on them
  rw [wrapI64_eq, Int.natCast_sub hp] at hl
  rw [c.2, Int.natCast_sub (Nat.le_add_right_of_le hp)]
  omega

/-- The loop: an answer came through one of its exits, `exit (acc ++ rem) u s1`, after decoding `rem` and (if the probe
    failed) keeping `u`, and at the exit the declared size is used up.  Every turn that goes on has consumed a
    descriptor, so `m` turns are not used up on fewer than `m` bytes. -/
theorem optLoop_run {α : Type} {k : Nat} (hd : Sound dec k) {sizeI : Int} {ds : Nat} {tooFar : Err}
    {exit : List Desc → Option Bytes → Rd → Res α} (hs1 : -2 ^ 63 ≤ sizeI) (hs2 : sizeI < 2 ^ 63)
    (htf : tooFar ≠ .fuel) (hex : ∀ o u s, (exit o u s).1 ≠ .error .fuel) :
    ∀ (m : Nat) (s : Rd) (acc : List Desc), m ≤ k →
      Post m s (fun a s' => ∃ rem u s1, exit (acc ++ rem) u s1 = (.ok a, s')
          ∧ Step s s1 (encodeDescs rem ++ u.getD []) (weights rem + (u.getD []).length) ∧ UsedUp sizeI ds s s1)
        (optLoop dec sizeI ds tooFar exit m s acc) := by
  intro m
  induction m with
  | zero => intro s acc _; exact fun _ => Nat.zero_le _
  | succ m ih =>
    intro s acc hk
    rw [optLoop]
    dsimp only
    by_cases hl : wrapI64 (sizeI - ((s.pos - ds : Nat) : Int)) = 0
    · rw [if_pos hl]
      exact Post.intro (hex _ _ _) fun a s' h =>
        ⟨[], none, s, by rwa [List.append_nil], Step.refl s, UsedUp.of_left hs1 hs2 hl⟩
    rw [if_neg hl]
    refine Post.ite htf fun _ => ?_
    have hp := hd.run s (wrapI64 (sizeI - ((s.pos - ds : Nat) : Int)))
    rcases hdec : dec s (wrapI64 (sizeI - ((s.pos - ds : Nat) : Int))) with ⟨e | d, s1⟩ <;> rw [hdec] at hp <;>
      dsimp only
    · cases hfu : e.isFuel with
      | true => exact fun _ => Nat.le_trans hk (hp (isFuel_eq_true hfu))
      | false =>
        rcases hrb : readBytes (wrapI64 (sizeI - ((s.pos - ds : Nat) : Int))) (setPos s s1) with ⟨unk, s2⟩
        obtain ⟨hst, hu⟩ := keepRest_step hd hs1 hs2 hdec hrb
        exact Post.intro (hex _ _ _) fun a s' h =>
          ⟨[], some unk, s2, by rwa [List.append_nil], by rw [weights, Nat.zero_add]; exact hst, hu⟩
    · refine (ih s1 (acc ++ [d]) (Nat.le_of_succ_le hk)).imp
        (fun h => Nat.le_trans (Nat.add_le_add h (Nat.le_of_succ_le (weight_ge d))) hp.1) ?_
      rintro a s' ⟨rem, u, s2, hex, hst, hu⟩
      refine ⟨d :: rem, u, s2, by rwa [List.append_assoc] at hex, ?_, hu.of_step hp hst.err⟩
      have := hp.trans hst
      rwa [← List.append_assoc, ← Nat.add_assoc] at this

/-- From the body of a descriptor to the descriptor, for any body (the ES descriptor's included): in front of the body
    `x` are the tag byte (read in `hr`) and the size field (`hrs`), which is at least one byte long and is written back as
    it was read.  (Without `generalizing := false` the `match` would take in `hrs`, which mentions `ex`, and no longer be
    the decoders' own.) -/
theorem descHeader_run {α : Type} {enc : α → Bytes} {wt : α → Nat} {n tag etag sfs size : Nat} {L mx : Int}
    {s0 s s1 : Rd} {ex : Option SzErr} {x : Res α} (hr : readBE 1 s0 = (tag, s))
    (hrs : readSizeSize L s = (sfs, size, s1, ex))
    (hx : Post n s1 (fun a s' => ∃ b w, Step s1 s' b w ∧ wt a ≤ w + 2
      ∧ (s'.err = none → s1.OK → size < 2 ^ 64 → enc a = tag % 256 :: (writeSize size sfs ++ b))) x) :
    Post (n + 1) s0 (fun a s' => Step s0 s' (enc a) (wt a)) (match (generalizing := false) ex with
      | some e => (.error (.sizeField e), s1)
      | _ =>
        if s1.err.isSome then (.error (accErr s1), s1)
        else if exceeds sfs size mx then (.error (.exceeds etag), s1)
        else x) := by
  cases ex with
  | some e => exact Post.error nofun
  | none =>
    refine Post.ite (accErr_ne_fuel s1) fun e1 => Post.ite nofun fun _ => ?_
    obtain ⟨he, hlt, hdr⟩ := readSizeSize_ok hrs (by simpa using e1)
    have kTag := readBE_step hr
    have hl := readBE_rest_length hr he
    refine hx.imp (by omega) ?_
    rintro a s' ⟨b, w, kBody, hw, henc⟩
    refine ⟨by have := kBody.1; omega, fun he' => ⟨kTag.err he, fun hs0 => ?_⟩⟩
    have c := kTag.consumed he hs0
    have hs := (c.ok hs0).2
    obtain ⟨c0, h64⟩ := hdr hs.1
    have hs1 := (c0.ok hs).2
    rw [henc he' hs1 h64, ← List.singleton_append, ← beBytes_one]
    exact c.trans (c0.trans (kBody.consumed he' hs1))

theorem decodeDSI_run {n : Nat} {s0 s : Rd} (mx : Int) (hr : readBE 1 s0 = (5, s)) :
    Run (n + 1) s0 (decodeDSI s mx) := by
  unfold decodeDSI
  rcases hrs : readSizeSize (mx - 1) s with ⟨sfs, size, s1, ex⟩
  refine descHeader_run hr hrs ?_
  rcases hrb : readBytes (toI64 size) s1 with ⟨data, s2⟩
  dsimp only
  refine Post.ite nofun fun _ => Post.ite (accErr_ne_fuel s2) fun _ => Post.ok
    ⟨data, data.length, readBytes_step hrb, by rw [Desc.weight]; omega, fun he _ h64 => ?_⟩
  rw [eq_of_natCast_eq_toI64 h64 (readBytes_ok hrb he).2]
  rfl

theorem decodeRaw_run {n tag : Nat} {s0 s : Rd} (mx : Int) (hr : readBE 1 s0 = (tag, s)) :
    Run (n + 1) s0 (decodeRaw tag s mx) := by
  unfold decodeRaw
  rcases hrs : readSizeSize (mx - 1) s with ⟨sfs, size, s1, ex⟩
  refine descHeader_run hr hrs ?_
  rcases hrb : readBytes (toI64 size) s1 with ⟨data, s2⟩
  dsimp only
  refine Post.ite (accErr_ne_fuel s2) fun _ => Post.ok
    ⟨data, data.length, readBytes_step hrb, by rw [Desc.weight]; omega, fun he _ h64 => ?_⟩
  rw [eq_of_natCast_eq_toI64 h64 (readBytes_ok hrb he).2]
  rfl

theorem decodeSL_run {n : Nat} {s0 s : Rd} (mx : Int) (hr : readBE 1 s0 = (6, s)) :
    Run (n + 1) s0 (decodeSL s mx) := by
  unfold decodeSL
  rcases hrs : readSizeSize (mx - 1) s with ⟨sfs, size, s1, ex⟩
  refine descHeader_run hr hrs (Post.ite nofun fun hz => ?_)
  rcases hrc : readBE 1 s1 with ⟨cfg, s2⟩
  dsimp only
  have kCfg := readBE_step hrc
  by_cases hgt : size > 1
  · rw [if_pos hgt]
    rcases hrb : readBytes (toI64 (size - 1)) s2 with ⟨more, s3⟩
    dsimp only
    refine Post.ite (accErr_ne_fuel s3) fun _ => Post.ok
      ⟨_, _, kCfg.trans (readBytes_step hrb), by rw [Desc.weight]; omega, fun he _ h64 => ?_⟩
    have := eq_of_natCast_eq_toI64 (Nat.lt_of_le_of_lt (Nat.sub_le ..) h64) (readBytes_ok hrb he).2
    obtain rfl : size = 1 + more.length := by rw [← this, Nat.add_sub_of_le (Nat.le_of_lt hgt)]
    simp [encodeDesc]
  · rw [if_neg hgt]
    dsimp only
    refine Post.ite (accErr_ne_fuel s2) fun _ => Post.ok ⟨_, _, kCfg, by rw [Desc.weight]; simp, fun he _ h64 => ?_⟩
    obtain rfl : size = 1 + ([] : Bytes).length := Nat.le_antisymm (Nat.le_of_not_gt hgt) (Nat.pos_of_ne_zero hz)
    simp [encodeDesc]

/-- The DecoderConfig descriptor put together again: `kFix` the 13 fixed bytes, `kFst` what was decoded first behind
    them (the DecSpecificInfo `dsi` or the first other descriptor, `acc`), `kLoop` the loop. -/
theorem dcParts_step {s1 s5 s6 s7 : Rd} {sfs size ot w mb ab : Nat} {dsi : Option (Nat × Bytes)} {acc rem : List Desc}
    {u : Option Bytes} {b1 : Bytes} {w1 : Nat}
    (kFix : Step s1 s5 (beBytes 1 ot ++ (beBytes 4 w ++ (beBytes 4 mb ++ beBytes 4 ab))) 0)
    (kFst : Step s5 s6 b1 w1) (hb1 : b1 = encodeDsi dsi ++ encodeDescs acc) (hw1 : dsiWeight dsi + weights acc ≤ w1)
    (kLoop : Step s6 s7 (encodeDescs rem ++ u.getD []) (weights rem + (u.getD []).length))
    (hu : UsedUp (toI64 size) s1.pos s6 s7) :
    ∃ b v, Step s1 s7 b v
      ∧ (Desc.dc ⟨sfs, ot, w / 2 ^ 24, w % 2 ^ 24, mb, ab, dsi, u.getD []⟩ (acc ++ rem)).weight ≤ v + 2
      ∧ (s7.err = none → s1.OK → size < 2 ^ 64 →
          encodeDesc (.dc ⟨sfs, ot, w / 2 ^ 24, w % 2 ^ 24, mb, ab, dsi, u.getD []⟩ (acc ++ rem))
            = 4 % 256 :: (writeSize size sfs ++ b)) := by
  have kAll := kFix.trans (kFst.trans kLoop)
  refine ⟨_, _, kAll, by rw [Desc.weight_dc, weights_append]; dsimp only; omega, fun he hs h64 => ?_⟩
  -- the declared size is what was consumed behind the size field
  have hsz := hu.of_step (kFix.trans kFst) kLoop.err he hs (Nat.le_refl _)
  have hlen := (kAll.consumed he hs).2
  simp only [List.length_append, beBytes_length, hb1, encodeDsi_length, encodeDescs_length] at hlen
  have hsize : size = (Desc.dc ⟨sfs, ot, w / 2 ^ 24, w % 2 ^ 24, mb, ab, dsi, u.getD []⟩ (acc ++ rem)).size := by
    refine eq_of_natCast_eq_toI64 h64 ?_
    rw [hsz, Desc.size, sizeSizes_append, hlen, Nat.add_sub_cancel_left]
    simp only [← Nat.add_assoc, Nat.reduceAdd]
  rw [encodeDesc, ← hsize, hb1, encodeDescs_append]
  dsimp only
  rw [← Nat.shiftLeft_add_eq_or_of_lt (Nat.mod_lt _ (by decide)), Nat.shiftLeft_eq, beBytes4_split]
  simp only [List.cons_append, List.append_assoc]

theorem decodeDC_run {n : Nat} (hd : Sound dec n) {s0 s : Rd} (mx : Int) (hr : readBE 1 s0 = (4, s)) :
    Run (n + 1) s0 (decodeDC dec n s mx) := by
  unfold decodeDC
  rcases hrs : readSizeSize (mx - 1) s with ⟨sfs, size, s1, ex⟩
  refine descHeader_run hr hrs (Post.ite nofun fun _ => ?_)
  rcases h1 : readBE 1 s1 with ⟨ot, s2⟩
  rcases h2 : readBE 4 s2 with ⟨w, s3⟩
  rcases h3 : readBE 4 s3 with ⟨mb, s4⟩
  rcases h4 : readBE 4 s4 with ⟨ab, s5⟩
  simp only [h2, h3, h4]
  have kFix := (readBE_step h1).trans ((readBE_step h2).trans ((readBE_step h3).trans (readBE_step h4)))
  have hr := toI64_range size
  by_cases hl : wrapI64 (toI64 size - ((s5.pos - s1.pos : Nat) : Int)) = 0
  · rw [if_pos hl]
    exact Post.ok (dcParts_step (acc := []) (rem := []) (u := none) kFix (Step.refl _) rfl (Nat.le_refl _) (Step.refl _)
      (UsedUp.of_left hr.1 hr.2 hl))
  rw [if_neg hl]
  have kFst := hd.run s5 (wrapI64 (toI64 size - ((s5.pos - s1.pos : Nat) : Int)))
  rcases hdec : dec s5 (wrapI64 (toI64 size - ((s5.pos - s1.pos : Nat) : Int))) with ⟨e | d1, s6⟩ <;>
    rw [hdec] at kFst <;> dsimp only
  · cases hfu : e.isFuel with
    | true => exact fun _ => Nat.le_trans (kFst (isFuel_eq_true hfu)) (Nat.le_of_add_right_le kFix.1)
    | false => exact Post.error nofun
  have hn : n ≤ s6.rest.length → n ≤ s1.rest.length := fun h =>
    Nat.le_trans h (Nat.le_of_add_right_le (kFix.trans kFst).1)
  split
  -- `d1` is the DecSpecificInfo, stored in its own field, or heads the other descriptors: the same bytes
  all_goals
    rw [dcLoop_eq]
    refine (optLoop_run hd hr.1 hr.2 (by simp) (fun _ _ _ => by simp [dcExit]) n s6 _ (Nat.le_refl n)).imp hn ?_
    rintro d s' ⟨rem, u, s7, hex, kLoop, hu⟩
    cases hex
    exact dcParts_step kFix kFst (by simp [encodeDsi, encodeDesc, encodeDescs])
      (by simp [dsiWeight, Desc.weight, weights]) kLoop hu

theorem decodeDescriptor_sticky (n : Nat) (s : Rd) (mx : Int) (h : (decodeDescriptor n s mx).2.err = none) :
    s.err = none := by
  cases hs : s.err with
  | none => rfl
  | some e =>
    -- a reader with an error is handed back as it is
    have hr : readBE 1 s = (beVal [], s) := by simp [readBE, readN, hs]
    cases n with
    | zero => exact hs.symm.trans h
    | succ n =>
      rw [decodeDescriptor, hr] at h
      by_cases hm : mx < 2
      · rw [if_pos hm] at h; exact hs.symm.trans h
      · rw [if_neg hm] at h; dsimp only at h; rw [if_pos (by rw [hs]; rfl)] at h; exact hs.symm.trans h

theorem decodeDescriptor_sound : ∀ n, Sound (decodeDescriptor n) n
  | 0 => ⟨decodeDescriptor_sticky 0, fun _ _ _ => Nat.zero_le _⟩
  | n + 1 => by
    refine ⟨decodeDescriptor_sticky (n + 1), fun s mx => ?_⟩
    rw [decodeDescriptor]
    refine Post.ite nofun fun _ => ?_
    rcases hr : readBE 1 s with ⟨tag, s1⟩
    refine Post.ite (accErr_ne_fuel s1) fun _ => Post.ite nofun fun _ => ?_
    by_cases h4 : tag = 4
    · rw [if_pos h4]; subst h4
      exact decodeDC_run (decodeDescriptor_sound n) mx hr
    rw [if_neg h4]
    by_cases h5 : tag = 5
    · rw [if_pos h5]; subst h5
      exact decodeDSI_run mx hr
    rw [if_neg h5]
    by_cases h6 : tag = 6
    · rw [if_pos h6]; subst h6
      exact decodeSL_run mx hr
    rw [if_neg h6]
    exact decodeRaw_run mx hr

theorem esExit_ok {size : Nat} {e : ES} {o : List Desc} {u : Option Bytes} {s1 : Rd} {E : ES} {s' : Rd}
    (h : esExit size e o u s1 = (.ok E, s')) : s' = s1 ∧ E = { e with others := o, unk := u.getD e.unk } := by
  unfold esExit at h
  cases u with
  | some u => cases h; exact ⟨rfl, rfl⟩
  | none => cases (ite_ne_left (ite_ne_left h nofun).2 nofun).2; exact ⟨rfl, rfl⟩

/-- The second half of the ES descriptor put together again: `kDc` the DecoderConfig descriptor, `kFst` what was decoded
    first behind it (the SLConfig descriptor `sl` or the first other descriptor, `acc`), `kLoop` the loop. -/
theorem esBodyParts_step {s s1 s2 s3 : Rd} {dc : DcHdr} {dcO : List Desc} {sl : Option (Nat × Nat × Bytes)}
    {acc rem : List Desc} {u : Option Bytes} {b2 : Bytes} {w2 ds size : Nat}
    (kDc : Step s s1 (encodeDesc (.dc dc dcO)) (Desc.dc dc dcO).weight)
    (kFst : Step s1 s2 b2 w2) (hb2 : b2 = encodeSl sl ++ encodeDescs acc) (hw2 : slWeight sl + weights acc ≤ w2)
    (kLoop : Step s2 s3 (encodeDescs rem ++ u.getD []) (weights rem + (u.getD []).length))
    (hu : UsedUp (toI64 size) ds s2 s3) :
    Step s s3 (encodeDesc (.dc dc dcO) ++ (encodeSl sl ++ (encodeDescs (acc ++ rem) ++ u.getD [])))
        ((Desc.dc dc dcO).weight + slWeight sl + weights (acc ++ rem) + (u.getD []).length)
      ∧ UsedUp (toI64 size) ds s s3 := by
  have kAll := kDc.trans (kFst.trans kLoop)
  rw [hb2, List.append_assoc, ← List.append_assoc (encodeDescs acc), ← encodeDescs_append] at kAll
  exact ⟨kAll.mono (by rw [weights_append]; omega), hu.of_step (kDc.trans kFst) kLoop.err⟩

theorem esExit_ne_fuel (size : Nat) (e : ES) (o : List Desc) (u : Option Bytes) (s : Rd) :
    (esExit size e o u s).1 ≠ .error .fuel := by
  unfold esExit
  cases u <;> dsimp only <;> repeat' split
  all_goals simp [accErr_ne_fuel]

theorem decodeESBody_run {n : Nat} (hd : Sound dec n) (sfs size ds esId fl dep : Nat) (url : Bytes) (ocr : Nat)
    (s : Rd) :
    Post n s (fun E s' => ∃ dc dcO sl others unk, E = ⟨sfs, esId, fl, dep, url, ocr, dc, dcO, sl, others, unk⟩
        ∧ Step s s' (encodeDesc (.dc dc dcO) ++ (encodeSl sl ++ (encodeDescs others ++ unk)))
            ((Desc.dc dc dcO).weight + slWeight sl + weights others + unk.length)
        ∧ UsedUp (toI64 size) ds s s')
      (decodeESBody dec n sfs size ds esId fl dep url ocr s) := by
  unfold decodeESBody
  have hr := toI64_range size
  dsimp only
  have kDc := hd.run s (wrapI64 (toI64 size - ((s.pos - ds : Nat) : Int)))
  rcases hdec : dec s (wrapI64 (toI64 size - ((s.pos - ds : Nat) : Int))) with ⟨e | d, s1⟩ <;> rw [hdec] at kDc
  · exact kDc
  cases d with
  | dsi | sl | raw => exact Post.error nofun
  | dc dc dcO =>
    dsimp only
    have kFst := hd.run s1 (wrapI64 (toI64 size - ((s1.pos - ds : Nat) : Int)))
    rcases hdec2 : dec s1 (wrapI64 (toI64 size - ((s1.pos - ds : Nat) : Int))) with ⟨e | d2, s2⟩ <;>
      rw [hdec2] at kFst
    · dsimp only
      cases hfu : e.isFuel with
      | true => exact fun _ => Nat.le_trans (kFst (isFuel_eq_true hfu)) (Nat.le_of_add_right_le kDc.1)
      | false =>
        rcases hrb : readBytes (wrapI64 (toI64 size - ((s1.pos - ds : Nat) : Int))) (setPos s1 s2) with ⟨unk, s3⟩
        obtain ⟨kUnk, hu⟩ := keepRest_step hd hr.1 hr.2 hdec2 hrb
        exact Post.ok ⟨dc, dcO, none, [], unk, rfl, esBodyParts_step (sl := none) (acc := []) (rem := [])
          (u := some unk) kDc (Step.refl s1) rfl (Nat.le_refl _) (by rw [weights, Nat.zero_add]; exact kUnk) hu⟩
    have hn : n ≤ s2.rest.length → n ≤ s.rest.length := fun h =>
      Nat.le_trans h (Nat.le_of_add_right_le (kDc.trans kFst).1)
    split <;> rename_i heq <;> cases heq
    -- `d2` is the SLConfig descriptor, stored in its own field, or heads the other descriptors: the same bytes
    all_goals
      rw [esLoop_eq]
      refine (optLoop_run hd hr.1 hr.2 (by simp) (esExit_ne_fuel size _) n s2 _ (Nat.le_refl n)).imp hn ?_
      rintro E s' ⟨rem, u, s3, hex, kLoop, hu⟩
      obtain ⟨rfl, rfl⟩ := esExit_ok hex
      exact ⟨dc, dcO, _, _, _, rfl, esBodyParts_step kDc kFst (by simp [encodeSl, encodeDescs])
        (by simp [slWeight, Desc.weight, weights]) kLoop hu⟩

theorem optBE2_step {c : Bool} {s : Rd} {v : Nat} {s' : Rd} (h : (if c then readBE 2 s else (0, s)) = (v, s')) :
    Step s s' (if c then beBytes 2 v else []) 0 := by
  cases c with
  | false => cases h; exact Step.refl s
  | true => exact readBE_step h

theorem readESOpt_step {fl : Nat} {s : Rd} {dep : Nat} {url : Bytes} {ocr : Nat} {s' : Rd}
    (h : readESOpt fl s = (dep, url, ocr, s')) :
    Step s s' ((if flagDep fl then beBytes 2 dep else []) ++ ((if flagUrl fl then beBytes 1 url.length ++ url else [])
      ++ (if flagOcr fl then beBytes 2 ocr else []))) url.length := by
  unfold readESOpt at h
  rcases h1 : (if flagDep fl then readBE 2 s else (0, s)) with ⟨dep', s1⟩
  rw [h1] at h
  cases hfu : flagUrl fl with
  | false =>
    rcases h3 : (if flagOcr fl then readBE 2 s1 else (0, s1)) with ⟨ocr', s3⟩
    simp only [hfu, Bool.false_eq_true, ↓reduceIte, h3] at h ⊢
    cases h
    exact (optBE2_step h1).trans ((Step.refl s1).trans (optBE2_step h3))
  | true =>
    rcases hq : readBE 1 s1 with ⟨l, s6⟩
    rcases hn : readN l s6 with ⟨u, s2⟩
    rcases h3 : (if flagOcr fl then readBE 2 s2 else (0, s2)) with ⟨ocr', s3⟩
    simp only [hfu, ↓reduceIte, hq, hn, h3] at h ⊢
    have kUrl := ((readBE_step hq).trans (readN_step hn)).congr (b' := beBytes 1 u.length ++ u)
      fun he => by rw [(readN_ok hn he).2]
    cases h
    exact ((optBE2_step h1).trans (kUrl.trans (optBE2_step h3))).mono (by omega)

theorem decodeES_run {n : Nat} (hd : Sound dec n) (dsz : Nat) (s : Rd) :
    Post (n + 1) s (fun E s' => Step s s' (encodeES E) E.weight) (decodeES dec n dsz s) := by
  unfold decodeES
  rcases hr : readBE 1 s with ⟨tag, s1⟩
  dsimp only
  refine Post.ite nofun fun htag => ?_
  obtain rfl : tag = 3 := Decidable.not_not.mp htag
  rcases hrs : readSizeSize maxInt s1 with ⟨sfs, size, s2, ex⟩
  refine descHeader_run hr hrs ?_
  rcases h3 : readBE 2 s2 with ⟨esId, s3⟩
  rcases h4 : readBE 1 s3 with ⟨fl, s4⟩
  rcases h5 : readESOpt fl s4 with ⟨dep, url, ocr, s5⟩
  dsimp only
  have kHead := (readBE_step h3).trans ((readBE_step h4).trans (readESOpt_step h5))
  refine (decodeESBody_run hd sfs size s2.pos esId fl dep url ocr s5).imp
    (fun h => Nat.le_trans h (Nat.le_of_add_right_le kHead.1)) ?_
  rintro E s' ⟨dc, dcO, sl, others, unk, rfl, kBody, hu⟩
  have kAll := kHead.trans kBody
  refine ⟨_, _, kAll, by rw [ES.weight_eq]; dsimp only; omega, fun he hs2 h64 => ?_⟩
  -- the declared size is what was consumed behind the size field
  have hsz := hu.of_step kHead kBody.err he hs2 (Nat.le_refl _)
  have hlen := (kAll.consumed he hs2).2
  simp only [List.length_append, beBytes_length, apply_ite List.length, List.length_nil, encodeDesc_length,
    encodeSl_length, encodeDescs_length] at hlen
  have hsize : size = (ES.mk sfs esId fl dep url ocr dc dcO sl others unk).size := by
    refine eq_of_natCast_eq_toI64 h64 ?_
    rw [hsz, ES.size, hlen, Nat.add_sub_cancel_left]
    simp only [← Nat.add_assoc, Nat.reduceAdd]
  rw [encodeES, ← hsize]
  simp only [List.cons_append, List.append_assoc]

end

theorem decodeEsdsFuel_run (n : Nat) (bs : Bytes) :
    match decodeEsdsFuel n bs with
    | .ok e => ∃ s', s'.err = none ∧ Step ⟨bs, 0, none⟩ s' (encodeEsds e) e.es.weight
    | .error er => er = .fuel → n ≤ bs.length := by
  unfold decodeEsdsFuel
  rcases hr : readBE 4 ⟨bs, 0, none⟩ with ⟨vf, s⟩
  dsimp only
  generalize (if bs.length ≥ 4 then (bs.length - 4) % 2 ^ 32 else 0) = dsz
  have kVf := readBE_step hr
  have hp := decodeES_run (decodeDescriptor_sound n) dsz s
  rcases hd : decodeES (decodeDescriptor n) n dsz s with ⟨e | es, s'⟩ <;> rw [hd] at hp <;> dsimp only
  · exact fun h => by have := hp h; have := kVf.1; dsimp only at this; omega
  by_cases he : s'.err.isSome
  · rw [if_pos he]; exact fun h => absurd h (accErr_ne_fuel s')
  · rw [if_neg he]
    refine ⟨s', by simpa using he, ?_⟩
    have := kVf.trans hp
    rw [encodeEsds]
    dsimp only
    rwa [beBytes4_split, ← Nat.zero_add es.weight]

theorem decodeEsds_run {bs : Bytes} {e : Esds} (h : decodeEsds bs = .ok e) :
    ∃ s', s'.err = none ∧ Step ⟨bs, 0, none⟩ s' (encodeEsds e) e.es.weight := by
  have := decodeEsdsFuel_run (bs.length + 1) bs
  rwa [show decodeEsdsFuel (bs.length + 1) bs = .ok e from h] at this

end Mp4ff.Esds
