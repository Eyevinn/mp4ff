import Mp4ff.Lemmas.CencRanges
import Mp4ff.Lemmas.CencCipher
/-!
C07/C06 Common Encryption: the named results (what each stands for is said where Props/C06.lean and Props/C07.lean
restate it), each an instance or a corollary of a general statement in CencRanges.lean (`protectRanges_spec`,
`appendProtectRange_ext`) or CencCipher.lean (`mapProt_clear`, `mapProt_roundtrip`, `cbc_roundtrip`,
`incrementIVInPlace_beVal`).
-/
namespace Mp4ff.Cenc
open Mp4ff.Nalu

theorem appendProtectRange_spec (l : List SubSample) (c p : Nat) :
    ∃ ext, appendProtectRange l c p = l ++ ext ∧ (ext.map (·.clear)).sum = c ∧ (ext.map (·.prot)).sum = p ∧
      (∀ r ∈ ext, r.clear ≤ 65535) ∧ maskOf ext = List.replicate c false ++ List.replicate p true := by
  obtain ⟨ext, h1, h2, h3, h4, h5⟩ := appendProtectRange_ext l c p
  exact ⟨ext, h1, h2, h3, fun r hr => (h4 r hr).1, h5⟩

theorem protectRanges_cenc (c : Codec) (ns : List Bytes) (h : NalusOK ns) (hne : ns ≠ []) :
    ∃ rs, protectRanges c none (lenPrefixed ns) = some rs ∧ maskOf rs = cencMask c ns ∧
      (∀ r ∈ rs, r.clear ≤ 65535 ∧ r.prot % 16 = 0) :=
  protectRanges_spec c none (· % 16 = 0) rfl ns h hne fun n _ => ⟨trivial, (cencProt_shape c n).1⟩

theorem incrementIV_spec (iv : Bytes) (hiv : IsBytes iv) (ranges : List SubSample) (len : Nat) :
    (incrementIV iv ranges len).length = iv.length ∧
    beVal (incrementIV iv ranges len) = (beVal iv + nrEncBlocks ranges len) % 256 ^ iv.length := by
  unfold incrementIV
  refine ⟨by rw [List.length_reverse, incrementIVInPlace_length, List.length_reverse], ?_⟩
  have := incrementIVInPlace_beVal iv.reverse (nrEncBlocks ranges len) hiv.reverse
  rwa [List.reverse_reverse, List.length_reverse] at this

theorem xorBytes_involutive (a k : Bytes) (ha : IsBytes a) (hk : IsBytes k) (hl : a.length ≤ k.length) :
    xorBytes (xorBytes a k) k = a :=
  xorBytes_xorBytes a k hl

theorem cryptCenc_involutive (E : Block → Block) (hE : ∀ b, (E b).length = 16 ∧ IsBytes (E b))
    (sample iv : Bytes) (hs : IsBytes sample) (ranges : List SubSample) (hf : RangesFit ranges sample.length) :
    cryptCenc E (cryptCenc E sample iv ranges) iv ranges = sample := by
  by_cases hr : ranges = []
  · subst hr
    exact congrArg Prod.fst (ctr_ctr E iv 0 sample)
  · obtain ⟨h1, h2⟩ := mapProt_roundtrip (ctr E iv) (ctr E iv) (fun _ => True) (fun _ => True)
      (fun st seg _ _ _ => ⟨ctr_length E iv st seg, trivial, ctr_ctr E iv st seg⟩) ranges 0 sample trivial hs
      (fun _ _ => trivial) hf
    rw [cryptCenc_eq E sample iv ranges hr hf, cryptCenc_eq E _ iv ranges hr (h1.symm ▸ hf)]
    exact h2

theorem cryptCenc_clear_unchanged (E : Block → Block) (hE : ∀ b, (E b).length = 16)
    (sample iv : Bytes) (ranges : List SubSample) (hne : ranges ≠ []) (hf : RangesFit ranges sample.length)
    (i : Nat) (hi : i < sample.length) (hm : (maskOf ranges).getD i false = false) :
    (cryptCenc E sample iv ranges)[i]? = sample[i]? ∧ (cryptCenc E sample iv ranges).length = sample.length := by
  obtain ⟨h1, h2⟩ := mapProt_clear (ctr E iv) (ctr_length E iv) ranges 0 sample hf
  rw [cryptCenc_eq E sample iv ranges hne hf]
  exact ⟨h2 i hm, h1⟩

theorem cbcDec_cbcEnc (E D : Block → Block) (hED : ∀ b, b.length = 16 → IsBytes b → D (E b) = b)
    (hE : ∀ b, (E b).length = 16 ∧ IsBytes (E b))
    (chain data : Bytes) (hc : chain.length = 16) (hcb : IsBytes chain) (hd : IsBytes data) (hl : data.length % 16 = 0) :
    (cbcDec D chain (cbcEnc E chain data).1).1 = data := by
  rw [(cbc_roundtrip E D hED hE chain data ⟨hc, hcb⟩ hd hl).2.2]

theorem cbcsCrypt_roundtrip (E D : Block → Block) (hED : ∀ b, b.length = 16 → IsBytes b → D (E b) = b)
    (hE : ∀ b, (E b).length = 16 ∧ IsBytes (E b))
    (data iv : Bytes) (hiv : iv.length = 16) (hivb : IsBytes iv) (hd : IsBytes data) (crypt skip : Nat)
    (hc : crypt % 16 = 0) (hs : skip % 16 = 0) :
    cbcsCrypt (cbcDec D) (cbcsCrypt (cbcEnc E) data iv crypt skip) iv crypt skip = data := by
  obtain ⟨hfit, hok⟩ := cbcsRanges_spec crypt skip data.length hc
  obtain ⟨hl, hr⟩ := mapProt_roundtrip (cbcEnc E) (cbcDec D) (fun ch => ch.length = 16 ∧ IsBytes ch) (· % 16 = 0)
    (cbc_roundtrip E D hED hE)
    (cbcsRanges crypt skip data.length) iv data ⟨hiv, hivb⟩ hd hok hfit
  rw [cbcsCrypt_eq (cbcEnc E), cbcsCrypt_eq (cbcDec D), hl]
  exact hr

end Mp4ff.Cenc
