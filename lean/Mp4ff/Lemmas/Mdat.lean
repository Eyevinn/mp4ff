import Mp4ff.Model.Mdat
import Mp4ff.Lemmas.Basics
/-!
Lazy and in-memory mdat access give the same bytes. Two layers. About the model alone: `fillLoop_spec`, the buffered
read loop of `CopySampleData` delivers `readAt F pos nrLeft` within the fuel `copyRanges` gives it, and from it what
`copyRanges.go` computes in either mode. Then a `Layout` (`pre ++ hdr ++ P ++ post`) on which both decoders are run:
`Layout.lazy_eq` / `Layout.eager_eq` give the two boxes as literal records, `Layout.readAt_F` turns a read of the file
inside the payload into a read of `P`; the lazy = in-memory statements follow by rewriting with these.
-/
namespace Mp4ff.Mdat
open Mp4ff.Stbl

theorem readAt_length (F : Bytes) (off len : Nat) (h : off + len ≤ F.length) :
    (readAt F off len).length = len := by
  simp [readAt]; omega

theorem readAt_zero (F : Bytes) (off : Nat) : readAt F off 0 = [] := by
  simp [readAt]

theorem readAt_split (F : Bytes) (pos a b : Nat) :
    readAt F pos (a + b) = readAt F pos a ++ readAt F (pos + a) b := by
  simp only [readAt]
  rw [List.take_add, List.drop_drop]

theorem readAt_append_right (A B : Bytes) (off len : Nat) (h : A.length ≤ off) :
    readAt (A ++ B) off len = readAt B (off - A.length) len := by
  simp only [readAt]
  rw [List.drop_append, List.drop_of_length_le h, List.nil_append]

theorem readAt_append_left (A B : Bytes) (off len : Nat) (h : off + len ≤ A.length) :
    readAt (A ++ B) off len = readAt A off len := by
  simp only [readAt]
  rw [List.drop_append_of_le_length (by omega), List.take_append_of_le_length (by simp; omega)]

theorem readAt_full (A : Bytes) : readAt A 0 A.length = A := by
  simp [readAt]

theorem fillLoop_fits {F : Bytes} {workLen nrLeft pos : Nat} {work : Bytes} (fuel : Nat) (out : Bytes)
    (hp : pos + nrLeft ≤ F.length)
    (hfit : work.length + nrLeft ≤ workLen) :
    fillLoop F workLen (fuel + 1) nrLeft pos work out = some (work ++ readAt F pos nrLeft, out) := by
  have hgl := readAt_length F pos nrLeft hp
  simp only [fillLoop, Nat.min_eq_right hfit, Nat.add_sub_cancel_left, hgl, Nat.sub_self, if_true]
  rw [if_neg (by omega)]

theorem fillLoop_refill {F : Bytes} {workLen nrLeft pos k : Nat} {work : Bytes} (fuel : Nat) (out : Bytes)
    (hp : pos + nrLeft ≤ F.length) (hk : work.length + k = workLen) (hfit : k < nrLeft) :
    fillLoop F workLen (fuel + 1) nrLeft pos work out =
      fillLoop F workLen fuel (nrLeft - k) (pos + k) [] (out ++ (work ++ readAt F pos k)) := by
  have hpk : pos + k ≤ F.length := Nat.le_trans (Nat.add_le_add_left (Nat.le_of_lt hfit) pos) hp
  have hgl := readAt_length F pos k hpk
  have hreq : min workLen (work.length + nrLeft) - work.length = k := by omega
  simp only [fillLoop, hreq, hgl, List.length_append]
  rw [if_neg (fun h => Nat.ne_of_gt h.1 h.2), if_neg (Nat.sub_ne_zero_of_lt hfit), if_pos hk]

/-- the fuel `2 * size + 2` of `copyRanges` suffices: a pass that starts on a full buffer reads nothing and only
    flushes (the `if` in the measure), every other pass that does not end the loop reads at least one byte -/
theorem fillLoop_spec (F : Bytes) (workLen : Nat) (hw : 0 < workLen) (fuel nrLeft pos : Nat) (work out : Bytes)
    (hp : pos + nrLeft ≤ F.length) (hwl : work.length ≤ workLen)
    (hf : 2 * nrLeft + (if work.length = workLen then 1 else 0) < fuel) :
    ∃ work' out', fillLoop F workLen fuel nrLeft pos work out = some (work', out') ∧
      out' ++ work' = out ++ work ++ readAt F pos nrLeft ∧ work'.length ≤ workLen := by
  induction fuel generalizing nrLeft pos work out with
  | zero => exact absurd hf (Nat.not_lt_zero _)
  | succ fuel ih =>
    by_cases hfit : work.length + nrLeft ≤ workLen
    · exact ⟨_, _, fillLoop_fits fuel out hp hfit, by simp,
        by rw [List.length_append, readAt_length F pos nrLeft hp]; exact hfit⟩
    · obtain ⟨k, hk⟩ := Nat.le.dest hwl
      have hk' : k < nrLeft := by omega
      obtain ⟨m, rfl⟩ : ∃ m, nrLeft = k + (m + 1) := Nat.exists_eq_add_of_lt hk'
      rw [fillLoop_refill fuel out hp hk (Nat.lt_add_of_pos_right (Nat.succ_pos m)), Nat.add_sub_cancel_left]
      obtain ⟨w', o', he, hcat, hlen⟩ := ih (m + 1) (pos + k) [] (out ++ (work ++ readAt F pos k))
        (by rwa [Nat.add_assoc]) (Nat.zero_le _)
        (by rw [List.length_nil, if_neg (Nat.ne_of_lt hw)]; split at hf <;> omega)
      refine ⟨w', o', he, ?_, hlen⟩
      rw [hcat, readAt_split F pos k]
      simp

theorem copyRanges_go_lazy (m : MdatBox) (F : Bytes) (workLen : Nat) (hm : m.lazyDataSize > 0) (rs : List (Nat × Nat))
    (work out : Bytes) (hr : ∀ r ∈ rs, r.1 + r.2 ≤ F.length) (hw : work.length ≤ workLen) :
    ∃ w' o', copyRanges.go m F workLen rs work out = some (w', o') ∧
      o' ++ w' = out ++ work ++ rs.flatMap (fun r => readAt F r.1 r.2) := by
  induction rs generalizing work out with
  | nil => exact ⟨work, out, rfl, by simp⟩
  | cons r rest ih =>
    obtain ⟨off, size⟩ := r
    obtain ⟨h0, hrest⟩ := List.forall_mem_cons.mp hr
    unfold copyRanges.go
    rw [if_pos hm, if_neg (Nat.not_lt.2 (Nat.le_trans (Nat.le_add_right off size) h0))]
    by_cases hz : workLen = 0
    · rw [if_pos hz, if_pos h0]
      obtain ⟨w', o', he, hcat⟩ := ih work (out ++ readAt F off size) hrest hw
      refine ⟨w', o', he, ?_⟩
      rw [hcat, List.eq_nil_of_length_eq_zero (Nat.le_zero.1 (hz ▸ hw) : work.length = 0)]; simp
    · rw [if_neg hz]
      obtain ⟨w1, o1, he1, hcat1, hl1⟩ := fillLoop_spec F workLen (Nat.pos_of_ne_zero hz) (2 * size + 2) size off work out
        h0 hw (Nat.add_lt_add_left (by split <;> decide) _)
      obtain ⟨w', o', he, hcat⟩ := ih w1 o1 hrest hl1
      refine ⟨w', o', by rw [he1]; exact he, ?_⟩
      rw [hcat, hcat1]; simp

theorem copyRanges_go_eager (m : MdatBox) (F : Bytes) (workLen : Nat) (hm : m.lazyDataSize = 0) (rs : List (Nat × Nat))
    (work out : Bytes) (hr : ∀ r ∈ rs, m.payloadStart ≤ r.1 ∧ r.1 - m.payloadStart + r.2 ≤ m.data.length) :
    copyRanges.go m F workLen rs work out =
      some (work, out ++ rs.flatMap (fun r => readAt m.data (r.1 - m.payloadStart) r.2)) := by
  induction rs generalizing out with
  | nil => simp [copyRanges.go]
  | cons r rest ih =>
    obtain ⟨h0, hrest⟩ := List.forall_mem_cons.mp hr
    unfold copyRanges.go
    rw [if_neg (by omega), if_neg (by omega)]
    rw [if_pos h0.2, ih _ hrest]
    simp

/-- a file laid out as `pre ++ header(hl bytes) ++ P ++ post`, mdat box at `pre.length` -/
structure Layout where
  pre : Bytes
  hdr : Bytes
  P : Bytes
  post : Bytes

def Layout.F (l : Layout) : Bytes := l.pre ++ l.hdr ++ l.P ++ l.post
def Layout.ms (l : Layout) : Nat := l.pre.length
def Layout.hl (l : Layout) : Nat := l.hdr.length
def Layout.sz (l : Layout) : Nat := l.hdr.length + l.P.length
def Layout.lazy (l : Layout) : MdatBox := decodeLazy l.ms l.hl l.sz
def Layout.eager (l : Layout) : MdatBox := decodeEager l.F l.ms l.hl l.sz
def Layout.OK (l : Layout) : Prop := (l.hl = 8 ∨ l.hl = 16) ∧ 0 < l.P.length

theorem Layout.readAt_F (l : Layout) (start size : Nat)
    (h1 : l.ms + l.hl ≤ start) (h2 : start + size ≤ l.ms + l.sz) :
    readAt l.F start size = readAt l.P (start - (l.ms + l.hl)) size := by
  simp only [Layout.ms, Layout.hl, Layout.sz, Layout.F] at *
  rw [readAt_append_left _ _ _ _ (by simp; omega)]
  rw [readAt_append_right _ _ _ _ (by simp; omega)]
  simp

theorem Layout.F_length (l : Layout) : l.F.length = l.ms + l.sz + l.post.length := by
  simp [Layout.ms, Layout.sz, Layout.F]; omega

theorem Layout.box_le (l : Layout) : l.ms + l.sz ≤ l.F.length := l.F_length ▸ Nat.le_add_right _ _

theorem Layout.lazy_eq (l : Layout) : l.lazy = ⟨l.ms, decide (l.hl > 8), [], l.P.length⟩ := by
  simp [Layout.lazy, decodeLazy, Layout.sz, Layout.hl]

theorem Layout.eager_eq (l : Layout) : l.eager = ⟨l.ms, decide (l.hl > 8), l.P, 0⟩ := by
  have : readAt l.F (l.ms + l.hl) (l.sz - l.hl) = l.P := by
    rw [Layout.readAt_F l _ _ (Nat.le_refl _) (by simp [Layout.sz, Layout.hl]; omega)]
    simp [Layout.sz, Layout.hl, readAt]
  rw [Layout.eager, decodeEager, this]

theorem eager_data (l : Layout) : l.eager.data = l.P := by rw [l.eager_eq]

/-- for an 8- or 16-byte header the payload position computed from the header kind is the real one -/
theorem payloadStart_mk (l : Layout) (h : l.OK) (d : Bytes) (z : Nat) :
    (⟨l.ms, decide (l.hl > 8), d, z⟩ : MdatBox).payloadStart = l.ms + l.hl := by
  rcases h.1 with h | h <;> simp [MdatBox.payloadStart, MdatBox.headerSize, h]

theorem eager_payloadStart (l : Layout) (h : l.OK) : l.eager.payloadStart = l.ms + l.hl := by
  rw [l.eager_eq, payloadStart_mk l h]

theorem lazy_payloadStart (l : Layout) (h : l.OK) : l.lazy.payloadStart = l.ms + l.hl := by
  rw [l.lazy_eq, payloadStart_mk l h]

theorem readData_lazy_eq_eager (l : Layout) (h : l.OK) (start size : Nat)
    (h1 : l.ms + l.hl ≤ start) (h2 : start + size ≤ l.ms + l.sz) :
    l.lazy.readData l.F start size = some (readAt l.F start size) ∧
    l.eager.readData l.F start size = some (readAt l.F start size) := by
  have hpos := h.2
  have e : l.sz = l.hl + l.P.length := rfl
  constructor
  · rw [l.lazy_eq, MdatBox.readData, if_pos hpos, if_pos (Nat.le_trans h2 l.box_le)]
  · rw [l.eager_eq, MdatBox.readData, if_neg (Nat.lt_irrefl 0), payloadStart_mk l h, if_neg (Nat.not_lt.2 h1)]
    simp only []
    rw [if_neg (by omega), Layout.readAt_F l start size h1 h2]

theorem lazy_encode (l : Layout) (h : l.OK) :
    l.lazy.encode ++ l.P = l.eager.encode ∧ l.lazy.size = l.eager.size ∧ l.lazy.size = (if l.hl = 16 ∨ l.P.length > 2 ^ 32 - 1 - 8 then 16 else 8) + l.P.length ∧
    l.lazy.payloadStart = l.eager.payloadStart := by
  have hpos := h.2
  rw [lazy_payloadStart l h, eager_payloadStart l h, l.lazy_eq, l.eager_eq]
  refine ⟨by simp [MdatBox.encode, MdatBox.size, hpos], by simp [MdatBox.size, hpos], ?_, rfl⟩
  rcases h.1 with h8 | h16
  · simp [MdatBox.size, hpos, h8]; split <;> omega
  · simp [MdatBox.size, hpos, h16]; omega

/-- ranges inside the payload -/
def RangesIn (l : Layout) (rs : List (Nat × Nat)) : Prop :=
  ∀ r ∈ rs, l.ms + l.hl ≤ r.1 ∧ r.1 + r.2 ≤ l.ms + l.sz

theorem copyRanges_lazy_eq_eager (l : Layout) (h : l.OK) (rs : List (Nat × Nat)) (hr : RangesIn l rs) (workLen : Nat) :
    copyRanges l.lazy l.F workLen rs = some (rs.flatMap fun r => readAt l.F r.1 r.2) ∧
    copyRanges l.eager l.F workLen rs = some (rs.flatMap fun r => readAt l.F r.1 r.2) := by
  have e : l.sz = l.hl + l.P.length := rfl
  constructor
  · obtain ⟨w', o', he, hcat⟩ := copyRanges_go_lazy l.lazy l.F workLen (by rw [l.lazy_eq]; exact h.2) rs [] []
      (fun r hx => Nat.le_trans (hr r hx).2 l.box_le) (Nat.zero_le _)
    simp [copyRanges, he, hcat]
  · have hgo := copyRanges_go_eager l.eager l.F workLen (by rw [l.eager_eq]) rs [] []
      (fun r hx => by have := hr r hx; rw [eager_payloadStart l h, eager_data]; omega)
    rw [copyRanges, hgo]
    simp only [List.nil_append, List.append_nil]
    congr 1
    apply flatMap_congr'
    intro r hx
    rw [eager_payloadStart l h, eager_data, Layout.readAt_F l r.1 r.2 (hr r hx).1 (hr r hx).2]

theorem copySampleData_lazy_eq_eager (l : Layout) (h : l.OK) (t : Tables) (a b : Nat) (rs : List (Nat × Nat))
    (hrs : t.getRanges a b = some rs) (hr : RangesIn l rs) (workLen : Nat) :
    copySampleData t l.lazy l.F workLen a b = copySampleData t l.eager l.F 0 a b ∧
    copySampleData t l.lazy l.F workLen a b = some (rs.flatMap fun r => readAt l.F r.1 r.2) := by
  have h1 := (copyRanges_lazy_eq_eager l h rs hr workLen).1
  have h2 := (copyRanges_lazy_eq_eager l h rs hr 0).2
  simp [copySampleData, hrs, h1, h2]

end Mp4ff.Mdat
