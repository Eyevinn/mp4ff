import Mp4ff.Model.Sei
import Mp4ff.Lemmas.Ebsp
/-!
`MoreRbspData` and `ReadRbspTrailingBits` of the EBSP reader on the bit level: what they answer on a reader whose pending
payload bits are known.
-/
namespace Mp4ff.Sei
open Mp4ff.Bits

theorem scanForOne_spec : ∀ (fuel : Nat) (L : List Bool) (e : ER) (P : Bytes),
    e.Inv P → e.abs P = L → L.length + 1 ≤ fuel → scanForOne fuel e = L.any id := by
  intro fuel
  induction fuel with
  | zero => intro L e P _ _ hf; omega
  | succ f ih =>
    intro L e P he habs hf
    cases L with
    | nil => simp [scanForOne, ER.read_bit_nil he habs]
    | cons b L =>
      obtain ⟨e', P', q, i, a, -⟩ := ER.reads_bit b he habs
      have := ih L e' P' i a (by simp only [List.length_cons] at hf; omega)
      cases b <;> simp [scanForOne, q, i.err, this]

theorem scanForOne_bitsLeft {e : ER} {P : Bytes} (he : e.Inv P) : scanForOne (e.bitsLeft + 1) e = (e.abs P).any id :=
  scanForOne_spec _ _ e P he rfl (Nat.succ_le_succ he.abs_length_le)

theorem moreRbspData_spec (r : ER) (P : Bytes) (b : Bool) (L : List Bool) (h : r.Inv P) (habs : r.abs P = b :: L) :
    moreRbspData r = (r, if b then L.any id else true) := by
  obtain ⟨e', P', q, i, a, -⟩ := ER.reads_bit b h habs
  have hs := scanForOne_bitsLeft i
  rw [a] at hs
  cases b with
  | true => simp only [moreRbspData, q, i.err, if_true, hs]; simp
  | false => simp [moreRbspData, q, i.err]

/-- the loop of `ReadRbspTrailingBits` is the all-zero scan of `MoreRbspData`, with the error flag cleared -/
theorem readTrailing_go_eq : ∀ (fuel : Nat) (e : ER), e.err = false →
    (readTrailing.go fuel e).2 = (if scanForOne fuel e then .anotherOne else .none) ∧
    (readTrailing.go fuel e).1.err = false := by
  intro fuel
  induction fuel with
  | zero => intro e h; exact ⟨rfl, h⟩
  | succ f ih =>
    intro e _
    unfold readTrailing.go scanForOne
    by_cases herr : (e.read 1).1.err = true
    · simp [herr]
    · by_cases hb : (e.read 1).2 = 1
      · simp [herr, hb]
      · simpa [herr, hb] using ih (e.read 1).1 (by simpa using herr)

theorem readTrailing_spec (r : ER) (P : Bytes) (m : Nat) (h : r.Inv P)
    (habs : r.abs P = true :: List.replicate m false) :
    (readTrailing r).2 = .none ∧ (readTrailing r).1.err = false := by
  obtain ⟨e', P', q, i, a, -⟩ := ER.reads_bit true h habs
  have hs := scanForOne_bitsLeft i
  rw [a] at hs
  have hg := readTrailing_go_eq (e'.bitsLeft + 1) e' i.err
  rw [hs] at hg
  simpa [readTrailing, h.err, q, i.err] using hg

end Mp4ff.Sei
