import Mp4ff.Model.Cenc
import Mp4ff.Lemmas.Bytes
/-!
The cipher side of C06/C07.  Both schemes apply a transform with a threaded state to the protected part of every entry
of a sub-sample map and leave the rest alone: CTR threads the keystream offset over the given map, the cbcs pattern
cipher threads the CBC chaining value over the map whose entries are (skip, crypt).  `mapProt` is that operation;
that it touches only protected bytes and is undone by the per-range inverse is proved once for it.  Order facts about
the lengths of `take` / `drop` are given as terms: `omega` is slow there.
-/
namespace Mp4ff.Cenc

theorem xorBytes_length (a k : Bytes) : (xorBytes a k).length = min a.length k.length := by
  simp [xorBytes]

theorem xorBytes_nil_left (k : Bytes) : xorBytes [] k = [] := by simp [xorBytes]

theorem xorBytes_cons (x y : Nat) (a k : Bytes) : xorBytes (x :: a) (y :: k) = (x ^^^ y) :: xorBytes a k := by
  simp [xorBytes]

theorem xorBytes_xorBytes : ∀ (a k : Bytes), a.length ≤ k.length → xorBytes (xorBytes a k) k = a
  | [], k, _ => by simp [xorBytes]
  | x :: a, [], h => by simp at h
  | x :: a, y :: k, h => by
    rw [xorBytes_cons, xorBytes_cons, xorBytes_xorBytes a k (Nat.le_of_succ_le_succ h), Nat.xor_assoc, Nat.xor_self,
      Nat.xor_zero]

theorem xorBytes_isBytes (a k : Bytes) (ha : IsBytes a) (hk : IsBytes k) : IsBytes (xorBytes a k) := by
  intro b hb
  obtain ⟨i, hi, rfl⟩ := List.mem_iff_getElem.1 hb
  simp only [xorBytes, List.getElem_zipWith]
  exact Nat.xor_lt_two_pow (n := 8) (ha _ (List.getElem_mem _)) (hk _ (List.getElem_mem _))

theorem keystream_length (E : Block → Block) (iv : Bytes) (off n : Nat) : (keystream E iv off n).length = n := by
  simp [keystream]

/-- the sub-sample entries fit the sample -/
def RangesFit (ranges : List SubSample) (n : Nat) : Prop := ((ranges.map fun r => r.clear + r.prot).sum) ≤ n

theorem RangesFit.split {r : SubSample} {rest : List SubSample} {s : Bytes} (h : RangesFit (r :: rest) s.length) :
    ∃ A B C, s = A ++ (B ++ C) ∧ A.length = r.clear ∧ B.length = r.prot ∧ RangesFit rest C.length := by
  have h' : r.clear + r.prot + (rest.map fun r => r.clear + r.prot).sum ≤ s.length := h
  have hcp : r.clear + r.prot ≤ s.length := Nat.le_trans (Nat.le_add_right _ _) h'
  refine ⟨s.take r.clear, (s.drop r.clear).take r.prot, s.drop (r.clear + r.prot), ?_, ?_, ?_, ?_⟩
  · rw [← List.drop_drop, List.take_append_drop, List.take_append_drop]
  · rw [List.length_take]; exact Nat.min_eq_left (Nat.le_trans (Nat.le_add_right _ _) hcp)
  · rw [List.length_take, List.length_drop]; exact Nat.min_eq_left (Nat.le_sub_of_add_le (Nat.add_comm _ _ ▸ hcp))
  · show _ ≤ _; rw [List.length_drop]; exact Nat.le_sub_of_add_le (Nat.add_comm _ _ ▸ h')

/-- `f`, with a state threaded through, applied to the protected part of every entry of a sub-sample map laid over `s` -/
def mapProt {σ : Type} (f : σ → Bytes → Bytes × σ) : List SubSample → σ → Bytes → Bytes
  | [], _, s => s
  | r :: rest, st, s =>
    let o := f st ((s.drop r.clear).take r.prot)
    s.take r.clear ++ (o.1 ++ mapProt f rest o.2 (s.drop (r.clear + r.prot)))

theorem mapProt_cons_append {σ : Type} (f : σ → Bytes → Bytes × σ) (r : SubSample) (rest : List SubSample) (st : σ)
    {A B : Bytes} (C : Bytes) (hA : A.length = r.clear) (hB : B.length = r.prot) :
    mapProt f (r :: rest) st (A ++ (B ++ C)) = A ++ ((f st B).1 ++ mapProt f rest (f st B).2 C) := by
  rw [mapProt, ← List.drop_drop, List.take_left' hA, List.drop_left' hA, List.take_left' hB, List.drop_left' hB]

theorem agree_append {m1 m2 : List Bool} {a1 b1 a2 b2 : Bytes} (ha : a1.length = m1.length) (hb : b1.length = m1.length)
    (h1 : ∀ i, m1.getD i false = false → a1[i]? = b1[i]?) (h2 : ∀ i, m2.getD i false = false → a2[i]? = b2[i]?)
    (i : Nat) (hi : (m1 ++ m2).getD i false = false) : (a1 ++ a2)[i]? = (b1 ++ b2)[i]? := by
  simp only [List.getD_eq_getElem?_getD] at hi h1 h2
  by_cases hlt : i < m1.length
  · rw [List.getElem?_append_left hlt] at hi
    rw [List.getElem?_append_left (ha ▸ hlt), List.getElem?_append_left (hb ▸ hlt)]
    exact h1 i hi
  · rw [List.getElem?_append_right (Nat.le_of_not_lt hlt)] at hi
    rw [List.getElem?_append_right (ha ▸ Nat.le_of_not_lt hlt), List.getElem?_append_right (hb ▸ Nat.le_of_not_lt hlt),
      ha, hb]
    exact h2 _ hi

theorem mapProt_clear {σ : Type} (f : σ → Bytes → Bytes × σ) (hf : ∀ st seg, (f st seg).1.length = seg.length) :
    ∀ (rs : List SubSample) (st : σ) (s : Bytes), RangesFit rs s.length →
      (mapProt f rs st s).length = s.length ∧
      ∀ i, (maskOf rs).getD i false = false → (mapProt f rs st s)[i]? = s[i]?
  | [], _, _, _ => ⟨rfl, fun _ _ => rfl⟩
  | r :: rest, st, s, h => by
    obtain ⟨A, B, C, rfl, hA, hB, hC⟩ := h.split
    obtain ⟨ihl, ihm⟩ := mapProt_clear f hf rest (f st B).2 C hC
    rw [mapProt_cons_append f r rest st C hA hB, maskOf, List.append_assoc]
    refine ⟨by simp only [List.length_append, hf, ihl], ?_⟩
    refine agree_append (by rw [List.length_replicate, hA]) (by rw [List.length_replicate, hA]) (fun _ _ => rfl)
      (agree_append (by rw [List.length_replicate, hf, hB]) (by rw [List.length_replicate, hB]) ?_ ihm)
    -- a clear index of the all-protected piece lies beyond it, in both lists
    intro i hi
    have hle : r.prot ≤ i := Nat.le_of_not_lt fun hlt => by
      rw [List.getD_eq_getElem?_getD, List.getElem?_replicate, if_pos hlt] at hi; exact absurd hi (by decide)
    rw [List.getElem?_eq_none (by rw [hf, hB]; exact hle), List.getElem?_eq_none (by rw [hB]; exact hle)]

/-- `g` undoes `f` on segments of admissible length (`ok`) from states satisfying `I`, ending in the same state -/
theorem mapProt_roundtrip {σ : Type} (f g : σ → Bytes → Bytes × σ) (I : σ → Prop) (ok : Nat → Prop)
    (hfg : ∀ st seg, I st → IsBytes seg → ok seg.length →
      (f st seg).1.length = seg.length ∧ I (f st seg).2 ∧ g st (f st seg).1 = (seg, (f st seg).2)) :
    ∀ (rs : List SubSample) (st : σ) (s : Bytes), I st → IsBytes s → (∀ r ∈ rs, ok r.prot) → RangesFit rs s.length →
      (mapProt f rs st s).length = s.length ∧ mapProt g rs st (mapProt f rs st s) = s
  | [], _, _, _, _, _, _ => ⟨rfl, rfl⟩
  | r :: rest, st, s, hst, hs, hok, h => by
    obtain ⟨A, B, C, rfl, hA, hB, hC⟩ := h.split
    obtain ⟨e1, e2, e3⟩ := hfg st B hst hs.of_append_right.of_append_left (hB ▸ hok r List.mem_cons_self)
    obtain ⟨ihl, ihr⟩ := mapProt_roundtrip f g I ok hfg rest (f st B).2 C e2 hs.of_append_right.of_append_right
      (fun r' hr' => hok r' (List.mem_cons_of_mem _ hr')) hC
    rw [mapProt_cons_append f r rest st C hA hB, mapProt_cons_append g r rest st _ hA (e1.trans hB), e3, ihr]
    exact ⟨by simp only [List.length_append, e1, ihl], rfl⟩

/-- CTR on one protected range, from keystream byte offset `koff` -/
def ctr (E : Block → Block) (iv : Bytes) (koff : Nat) (seg : Bytes) : Bytes × Nat :=
  (xorBytes seg (keystream E iv koff seg.length), koff + seg.length)

theorem ctr_length (E : Block → Block) (iv : Bytes) (koff : Nat) (seg : Bytes) :
    (ctr E iv koff seg).1.length = seg.length := by
  simp only [ctr, xorBytes_length, keystream_length, Nat.min_self]

theorem ctr_ctr (E : Block → Block) (iv : Bytes) (koff : Nat) (seg : Bytes) :
    ctr E iv koff (ctr E iv koff seg).1 = (seg, (ctr E iv koff seg).2) := by
  have hl := ctr_length E iv koff seg
  simp only [ctr] at hl ⊢
  rw [hl, xorBytes_xorBytes _ _ (by rw [keystream_length]; exact Nat.le_refl _)]

/-- `cryptCenc.go` works at absolute positions in the whole sample; it does not look at what lies before `pos` -/
theorem cryptCenc_go_eq (E : Block → Block) (iv : Bytes) :
    ∀ (rs : List SubSample) (p t : Bytes) (koff : Nat), RangesFit rs t.length →
      cryptCenc.go E iv rs p.length koff (p ++ t) = p ++ mapProt (ctr E iv) rs koff t
  | [], _, _, _, _ => rfl
  | r :: rest, p, t, koff, h => by
    obtain ⟨A, B, C, rfl, hA, hB, hC⟩ := h.split
    have hX : (xorBytes B (keystream E iv koff B.length)).length = r.prot := (ctr_length E iv koff B).trans hB
    have e1 : p.length + r.clear = (p ++ A).length := by rw [List.length_append, hA]
    have e2 : (p ++ A).length + r.prot = (p ++ A ++ xorBytes B (keystream E iv koff B.length)).length := by
      simp only [List.length_append, hX]
    rw [mapProt_cons_append (ctr E iv) r rest koff C hA hB, cryptCenc.go]
    -- with the positions written as lengths of prefixes, `take` and `drop` split the appends exactly
    simp only [e1]
    rw [← List.append_assoc p A, List.take_left, List.drop_left, List.take_left' hB, ← List.drop_drop, List.drop_left,
      List.drop_left' hB, e2, cryptCenc_go_eq E iv rest _ C (koff + r.prot) hC]
    simp only [ctr, hB, List.append_assoc]

theorem cryptCenc_eq (E : Block → Block) (sample iv : Bytes) (ranges : List SubSample) (hne : ranges ≠ [])
    (hf : RangesFit ranges sample.length) :
    cryptCenc E sample iv ranges = mapProt (ctr E iv) ranges 0 sample := by
  simp only [cryptCenc, hne, if_false]
  exact cryptCenc_go_eq E iv ranges [] sample 0 hf

theorem cbcEnc_short (E : Block → Block) (chain data : Bytes) (h : data.length < 16) :
    cbcEnc E chain data = ([], chain) := by
  rw [cbcEnc]; simp [h]

theorem cbcDec_short (D : Block → Block) (chain data : Bytes) (h : data.length < 16) :
    cbcDec D chain data = ([], chain) := by
  rw [cbcDec]; simp [h]

theorem cbcEnc_step (E : Block → Block) (chain data : Bytes) (h : 16 ≤ data.length) :
    cbcEnc E chain data =
      (E (xorBytes (data.take 16) chain) ++ (cbcEnc E (E (xorBytes (data.take 16) chain)) (data.drop 16)).1,
       (cbcEnc E (E (xorBytes (data.take 16) chain)) (data.drop 16)).2) := by
  rw [cbcEnc]; simp [Nat.not_lt.2 h]

theorem cbcDec_step (D : Block → Block) (chain data : Bytes) (h : 16 ≤ data.length) :
    cbcDec D chain data =
      (xorBytes (D (data.take 16)) chain ++ (cbcDec D (data.take 16) (data.drop 16)).1,
       (cbcDec D (data.take 16) (data.drop 16)).2) := by
  rw [cbcDec]; simp [Nat.not_lt.2 h]

/-- in the form `mapProt_roundtrip` asks of a transform and its inverse, the chaining value as the state -/
theorem cbc_roundtrip (E D : Block → Block) (hED : ∀ b, b.length = 16 → IsBytes b → D (E b) = b)
    (hE : ∀ b, (E b).length = 16 ∧ IsBytes (E b)) (chain data : Bytes) (hc : chain.length = 16 ∧ IsBytes chain)
    (hd : IsBytes data) (hl : data.length % 16 = 0) :
    (cbcEnc E chain data).1.length = data.length ∧
    ((cbcEnc E chain data).2.length = 16 ∧ IsBytes (cbcEnc E chain data).2) ∧
    cbcDec D chain (cbcEnc E chain data).1 = (data, (cbcEnc E chain data).2) := by
  by_cases h16 : data.length < 16
  · obtain rfl : data = [] := List.eq_nil_of_length_eq_zero ((Nat.mod_eq_of_lt h16).symm.trans hl)
    rw [cbcEnc_short E chain [] h16]
    exact ⟨rfl, hc, cbcDec_short D chain [] h16⟩
  · have h16 := Nat.le_of_not_lt h16
    have hpl : (xorBytes (data.take 16) chain).length = 16 := by
      rw [xorBytes_length, List.length_take, hc.1, Nat.min_eq_left h16, Nat.min_self]
    obtain ⟨hcl, hcb⟩ := hE (xorBytes (data.take 16) chain)
    obtain ⟨i1, i2, i3⟩ := cbc_roundtrip E D hED hE (E (xorBytes (data.take 16) chain)) (data.drop 16)
      ⟨hcl, hcb⟩ (hd.drop 16) (by rw [List.length_drop]; exact (Nat.mod_eq_sub_mod h16).symm.trans hl)
    rw [cbcEnc_step E chain data h16]
    refine ⟨?_, i2, ?_⟩
    · rw [List.length_append, hcl, i1, List.length_drop, Nat.add_sub_cancel' h16]
    · dsimp only
      rw [cbcDec_step D chain _ (by rw [List.length_append, hcl]; exact Nat.le_add_right _ _), List.take_left' hcl,
        List.drop_left' hcl, i3, hED _ hpl (xorBytes_isBytes _ _ (hd.take 16) hc.2),
        xorBytes_xorBytes _ _ (by rw [List.length_take, hc.1]; exact Nat.min_le_left _ _), List.take_append_drop]
termination_by data.length
decreasing_by rw [List.length_drop]; exact Nat.sub_lt (Nat.lt_of_lt_of_le (by decide) h16) (by decide)

/-- the sub-sample map the pattern cipher follows from a stripe boundary: `k` clear bytes pending (0 at the start,
    `skip` later), `len` bytes after them; `fuel` as in `cbcsCrypt.go` -/
def patRanges (crypt skip : Nat) : Nat → Nat → Nat → List SubSample
  | 0, _, _ => []
  | fuel + 1, k, len =>
    if crypt ≤ len then
      ⟨k, crypt⟩ :: (if len - crypt < skip then [] else patRanges crypt skip fuel skip (len - crypt - skip))
    else []

theorem patRanges_spec (crypt skip : Nat) : ∀ (fuel k len : Nat),
    RangesFit (patRanges crypt skip fuel k len) (k + len) ∧ ∀ r ∈ patRanges crypt skip fuel k len, r.prot = crypt
  | 0, _, _ => ⟨Nat.zero_le _, fun _ hr => absurd hr List.not_mem_nil⟩
  | fuel + 1, k, len => by
    obtain ⟨ih1, ih2⟩ := patRanges_spec crypt skip fuel skip (len - crypt - skip)
    simp only [RangesFit] at ih1 ⊢
    rw [patRanges]
    by_cases h1 : crypt ≤ len
    · rw [if_pos h1]
      by_cases h2 : len - crypt < skip
      · rw [if_pos h2]
        refine ⟨by simp only [List.map_cons, List.map_nil, List.sum_cons, List.sum_nil]; omega, fun r hr => ?_⟩
        rw [List.mem_singleton.1 hr]
      · rw [if_neg h2]
        refine ⟨by simp only [List.map_cons, List.sum_cons]; omega, fun r hr => ?_⟩
        rcases List.mem_cons.1 hr with rfl | hr
        · rfl
        · exact ih2 r hr
    · rw [if_neg h1]
      exact ⟨Nat.zero_le _, fun _ hr => absurd hr List.not_mem_nil⟩

/-- the loop of `cbcsCrypt` is `mapProt` over `patRanges`; `K` is the skipped stripe just appended to the output -/
theorem cbcsCrypt_go_eq (F : Bytes → Bytes → Bytes × Bytes) (data : Bytes) (crypt skip : Nat) (hs : 0 < skip) :
    ∀ (fuel pos : Nat) (chain acc K : Bytes), data.length < pos + fuel →
      cbcsCrypt.go F data crypt skip fuel pos chain (acc ++ K) =
        acc ++ mapProt F (patRanges crypt skip fuel K.length (data.length - pos)) chain (K ++ data.drop pos) := by
  intro fuel
  induction fuel with
  | zero =>
    intro pos _ _ _ h
    have h : data.length ≤ pos := Nat.le_of_lt h
    rw [cbcsCrypt.go, patRanges, mapProt, List.drop_eq_nil_of_le h, List.append_nil]
  | succ fuel ih =>
    intro pos chain acc K h
    have hf : data.length < pos + crypt + skip + fuel := by omega
    rw [cbcsCrypt.go, patRanges]
    by_cases h1 : crypt ≤ data.length - pos
    · have hB : ((data.drop pos).take crypt).length = crypt := by
        rw [List.length_take, List.length_drop]; exact Nat.min_eq_left h1
      have hd : data.drop pos = (data.drop pos).take crypt ++ data.drop (pos + crypt) := by
        rw [← List.drop_drop, List.take_append_drop]
      simp only [ge_iff_le, h1, if_true]
      rw [hd, mapProt_cons_append F ⟨K.length, crypt⟩ _ chain _ rfl hB, ← hd, ← Nat.sub_sub]
      by_cases h2 : data.length - pos - crypt < skip
      · simp only [h2, if_true, mapProt, List.append_assoc]
      · have hK : ((data.drop (pos + crypt)).take skip).length = skip := by
          rw [List.length_take, List.length_drop, ← Nat.sub_sub]; exact Nat.min_eq_left (Nat.le_of_not_lt h2)
        simp only [h2, if_false]
        rw [ih (pos + crypt + skip) _ (acc ++ K ++ (F chain _).1) _ hf,
          hK, ← List.drop_drop (i := skip) (j := pos + crypt), List.take_append_drop, ← Nat.sub_sub, ← Nat.sub_sub]
        simp only [List.append_assoc]
    · simp only [ge_iff_le, h1, if_false, mapProt, List.append_assoc]

/-- the sub-sample map of `cbcsCrypt` on `len` bytes: one CBC run over the whole blocks when there is no skip -/
def cbcsRanges (crypt skip len : Nat) : List SubSample :=
  if skip = 0 then [⟨0, len / 16 * 16⟩] else patRanges crypt skip (len + 2) 0 len

theorem cbcsCrypt_eq (F : Bytes → Bytes → Bytes × Bytes) (data iv : Bytes) (crypt skip : Nat) :
    cbcsCrypt F data iv crypt skip = mapProt F (cbcsRanges crypt skip data.length) iv data := by
  unfold cbcsCrypt cbcsRanges
  split
  · simp only [mapProt, List.take_zero, List.drop_zero, List.nil_append, Nat.zero_add]
  · rename_i hs
    exact cbcsCrypt_go_eq F data crypt skip (Nat.pos_of_ne_zero hs) (data.length + 2) 0 iv [] [] (by omega)

theorem cbcsRanges_spec (crypt skip len : Nat) (hc : crypt % 16 = 0) :
    RangesFit (cbcsRanges crypt skip len) len ∧ ∀ r ∈ cbcsRanges crypt skip len, r.prot % 16 = 0 := by
  unfold cbcsRanges
  split
  · refine ⟨?_, fun r hr => ?_⟩
    · show 0 + len / 16 * 16 + 0 ≤ len; omega
    · rw [List.mem_singleton.1 hr]; exact Nat.mul_mod_left _ _
  · obtain ⟨h1, h2⟩ := patRanges_spec crypt skip (len + 2) 0 len
    exact ⟨by rw [Nat.zero_add] at h1; exact h1, fun r hr => by rw [h2 r hr]; exact hc⟩

theorem incrementIVInPlace_length (l : List Nat) (s : Nat) : (incrementIVInPlace l s).length = l.length := by
  fun_induction incrementIVInPlace l s <;> simp_all

/-- `incrementIVInPlace` takes the IV last byte first; read back in order it is addition modulo 256^len -/
theorem incrementIVInPlace_beVal : ∀ (l : List Nat) (s : Nat), IsBytes l →
    beVal (incrementIVInPlace l s).reverse = (beVal l.reverse + s) % 256 ^ l.length
  | [], s, _ => by simp [incrementIVInPlace, beVal, Nat.mod_one]
  | b :: r, s, h => by
    have hlt := beVal_lt r.reverse h.tail.reverse
    rw [List.length_reverse] at hlt
    simp only [incrementIVInPlace]
    split
    · simp only [List.reverse_cons, beVal_concat, List.length_cons, Nat.pow_succ]
      rw [Nat.mod_eq_of_lt (by omega), Nat.add_assoc]
    · -- the carry: `x % (256 * N) = 256 * (x / 256 % N) + x % 256` (`Nat.mod_mul`), `x = beVal r.reverse * 256 + (b + s)`
      simp only [List.reverse_cons, beVal_concat, List.length_cons, Nat.pow_succ]
      rw [incrementIVInPlace_beVal r _ h.tail, Nat.add_assoc, Nat.mul_comm (256 ^ r.length) 256, Nat.mod_mul,
        Nat.mul_add_mod_self_right, Nat.mul_comm (beVal r.reverse) 256, Nat.mul_add_div (by decide), Nat.add_comm,
        Nat.mul_comm]

end Mp4ff.Cenc
