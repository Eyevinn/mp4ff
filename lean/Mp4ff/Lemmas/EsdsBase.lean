import Mp4ff.Model.Esds
import Mp4ff.Lemmas.Bytes
import Mp4ff.Lemmas.Basics
/-!
What the proofs about the esds / MPEG-4 descriptor model (`Model/Esds.lean`) share: the integer conversions, the reader
primitives, each with the bytes it consumes (`Consumed`), the size-field codec in both directions, `optLoop` (the
optional-descriptor loop of the DecoderConfig and of the ES descriptor, with its exit as a parameter), bytes written =
`Size()`, and the well-formedness predicates of decode ∘ encode (the trees the encoder can emit and the decoder maps back to
themselves).
-/
namespace Mp4ff.Esds

theorem toU64_eq (x : Int) : toU64 x = (x % 2 ^ 64).toNat := by
  cases x with
  | ofNat k => exact (Int.toNat_natCast (k % 2 ^ 64)).symm
  | negSucc k =>
    show 2 ^ 64 - 1 - k % 2 ^ 64 = _
    rw [Int.negSucc_emod _ (by decide)]
    omega

theorem wrapI64_eq (x : Int) : wrapI64 x = (x + 2 ^ 63) % 2 ^ 64 - 2 ^ 63 := by
  have h : wrapI64 x = if toU64 x < 2 ^ 63 then (toU64 x : Int) else (toU64 x : Int) - 2 ^ 64 := by
    cases x <;> rfl
  rw [h, toU64_eq]
  split <;> omega

theorem wrapI64_of_range {x : Int} (h1 : -2 ^ 63 ≤ x) (h2 : x < 2 ^ 63) : wrapI64 x = x := by
  rw [wrapI64_eq]; omega

theorem wrapI64_range (x : Int) : -2 ^ 63 ≤ wrapI64 x ∧ wrapI64 x < 2 ^ 63 := by
  rw [wrapI64_eq]; omega

theorem toI64_range (n : Nat) : -2 ^ 63 ≤ toI64 n ∧ toI64 n < 2 ^ 63 := wrapI64_range _

theorem toI64_small {n : Nat} (h : n < 2 ^ 63) : toI64 n = (n : Int) :=
  wrapI64_of_range (by omega) (by omega)

theorem toU64_small {x : Int} (h1 : 0 ≤ x) (h2 : x < 2 ^ 64) : toU64 x = x.toNat := by
  rw [toU64_eq, Int.emod_eq_of_lt h1 h2]

theorem eq_of_natCast_eq_toI64 {size k : Nat} (hs : size < 2 ^ 64) (h : (k : Int) = toI64 size) : size = k := by
  unfold toI64 at h; rw [wrapI64_eq] at h; omega

theorem exceeds_false (f size : Nat) (mx : Int) (h1 : ((1 + f + 1 + size : Nat) : Int) ≤ mx) (h2 : mx < 2 ^ 62) :
    exceeds f size mx = false := by
  unfold exceeds
  rw [decide_eq_false_iff_not, toU64_small (by omega) (by omega),
    Nat.mod_eq_of_lt (show 1 + f + 1 + size < W64 by unfold W64; omega)]
  omega

/-- reader `s'` is reader `s` after consuming exactly the bytes `b` -/
def Consumed (s s' : Rd) (b : Bytes) : Prop := s.rest = b ++ s'.rest ∧ s'.pos = s.pos + b.length

theorem Consumed.refl (s : Rd) : Consumed s s [] := ⟨rfl, rfl⟩

theorem Consumed.trans {s1 s2 s3 : Rd} {a b : Bytes} (h1 : Consumed s1 s2 a) (h2 : Consumed s2 s3 b) : Consumed s1 s3 (a ++ b) :=
  ⟨by rw [h1.1, h2.1, List.append_assoc], by rw [h2.2, h1.2, List.length_append, Nat.add_assoc]⟩

theorem Consumed.rest_length {s s' : Rd} {b : Bytes} (h : Consumed s s' b) : s.rest.length = b.length + s'.rest.length := by
  rw [h.1, List.length_append]

theorem readN_consumed {n : Nat} {s : Rd} {a : Bytes} {s' : Rd} (h : readN n s = (a, s')) : Consumed s s' a := by
  unfold readN at h
  split at h
  · cases h; exact Consumed.refl s
  · split at h
    · cases h; exact Consumed.refl _
    · cases h; exact ⟨(List.take_append_drop n s.rest).symm, by simp only [List.length_take]; omega⟩

theorem readN_ok {n : Nat} {s : Rd} {a : Bytes} {s' : Rd} (h : readN n s = (a, s')) (he : s'.err = none) :
    s.err = none ∧ a.length = n := by
  unfold readN at h
  split at h
  · cases h; simp_all
  · rename_i h0
    split at h
    · cases h; simp at he
    · cases h; exact ⟨by simpa using h0, by simp only [List.length_take]; omega⟩

theorem readN_append (a t : Bytes) (p : Nat) :
    readN a.length ⟨a ++ t, p, none⟩ = (a, ⟨t, p + a.length, none⟩) := by
  simp [readN]

theorem readBE_eq (n : Nat) (s : Rd) : readBE n s = (beVal (readN n s).1, (readN n s).2) := rfl

theorem readBE_append (n v : Nat) (t : Bytes) (p : Nat) (h : v < 256 ^ n) :
    readBE n ⟨beBytes n v ++ t, p, none⟩ = (v, ⟨t, p + n, none⟩) := by
  have := readN_append (beBytes n v) t p
  rw [beBytes_length] at this
  rw [readBE_eq, this, beVal_beBytes n v h]

theorem readBE1_cons (b : Nat) (t : Bytes) (p : Nat) :
    readBE 1 ⟨b :: t, p, none⟩ = (b, ⟨t, p + 1, none⟩) := by
  simp [readBE, readN, beVal]

theorem readBytes_consumed {i : Int} {s : Rd} {a : Bytes} {s' : Rd} (h : readBytes i s = (a, s')) : Consumed s s' a := by
  unfold readBytes at h
  split at h
  · cases h; exact Consumed.refl _
  · exact readN_consumed h

theorem readBytes_ok {i : Int} {s : Rd} {a : Bytes} {s' : Rd} (h : readBytes i s = (a, s')) (he : s'.err = none) :
    s.err = none ∧ (a.length : Int) = i := by
  unfold readBytes at h
  split at h
  · cases h; simp at he
  · have := readN_ok h he; exact ⟨this.1, by omega⟩

theorem readBytes_append (a t : Bytes) (p : Nat) :
    readBytes (a.length : Int) ⟨a ++ t, p, none⟩ = (a, ⟨t, p + a.length, none⟩) := by
  simp [readBytes, readN_append]

theorem writeSize_length (size f : Nat) : (writeSize size f).length = f + 1 := by
  induction f with
  | zero => rfl
  | succ f ih => simp [writeSize, ih]

theorem pow7_succ' (p : Nat) : 2 ^ (7 * (p + 1)) = 2 ^ (7 * p) * 128 :=
  Nat.pow_add 2 (7 * p) 7

theorem pow7_one : 2 ^ (7 * (0 + 1)) = 128 := rfl

theorem writeSize_add_mul : ∀ (p a r : Nat), writeSize (a * 2 ^ (7 * (p + 1)) + r) p = writeSize r p := by
  intro p
  induction p with
  | zero =>
    intro a r
    simp only [writeSize]
    rw [Nat.add_comm, pow7_one, Nat.add_mul_mod_self_right]
  | succ p ih =>
    intro a r
    have e : a * 2 ^ (7 * (p + 1 + 1)) + r = a * 128 * 2 ^ (7 * (p + 1)) + r := by
      rw [pow7_succ' (p + 1), Nat.mul_assoc, Nat.mul_comm 128]
    simp only [writeSize]
    rw [e, ih, Nat.add_comm _ r, Nat.add_mul_div_right _ _ (Nat.two_pow_pos _), Nat.add_mul_mod_self_right]

/-- well-formed size field: length fits the byte counter, value fits the field and 64 bits -/
def SzOK (f size : Nat) : Prop := f < 256 ∧ size < 2 ^ (7 * (f + 1)) ∧ size < 2 ^ 64

/-- Reading back what `writeSize` wrote: when the loop is entered with the groups above the field in `acc`, it
    ends with all of `size`. -/
theorem sizeLoop_write (L : Int) (size : Nat) (t : Bytes) (hs : size < 2 ^ 64) : ∀ (p sfs nr pos : Nat),
    sfs + p + 1 < 256 → ((nr + p : Nat) : Int) < L →
    sizeLoop L (size / 2 ^ (7 * (p + 1))) sfs nr (writeSize size p ++ t) pos
      = (sfs + p + 1, size, ⟨t, pos + p + 1, none⟩, none) := by
  have hacc : ∀ {x}, x < 2 ^ 64 → x / 128 / 2 ^ 57 = 0 := fun hx => by
    rw [Nat.div_div_eq_div_mul]; exact Nat.div_eq_of_lt hx
  intro p
  induction p with
  | zero =>
    intro sfs nr pos h1 h2
    rw [pow7_one]
    have hval : size / 128 * 128 + size % 128 % 128 = size := by rw [Nat.mod_mod, Nat.div_add_mod']
    simp only [writeSize, List.cons_append, List.nil_append, sizeLoop, hacc hs, hval, W64, Nat.mod_eq_of_lt hs]
    rw [if_neg (by omega), if_neg (by omega), if_neg (by omega), Nat.mod_eq_of_lt (by omega)]
  | succ p ih =>
    intro sfs nr pos h1 h2
    simp only [writeSize, List.cons_append, sizeLoop, W64]
    have hx64 : size / 2 ^ (7 * (p + 1)) < 2 ^ 64 := Nat.lt_of_le_of_lt (Nat.div_le_self ..) hs
    rw [pow7_succ' (p + 1), ← Nat.div_div_eq_div_mul]
    generalize size / 2 ^ (7 * (p + 1)) = x at hx64 ih ⊢
    rw [hacc hx64, if_neg (by omega), if_neg (by omega), if_pos (by omega),
      show (x / 128 * 128 + (x % 128 + 128) % 128) = x by rw [Nat.add_mod_right, Nat.mod_mod, Nat.div_add_mod'],
      Nat.mod_eq_of_lt hx64, Nat.mod_eq_of_lt (by omega), ih (sfs + 1) (nr + 1) (pos + 1) (by omega) (by omega)]
    simp only [Nat.add_assoc, Nat.add_comm 1 p]

theorem readSizeSize_write (L : Int) (size f : Nat) (t : Bytes) (p : Nat) (h : SzOK f size) (hL : (f : Int) < L) :
    readSizeSize L ⟨writeSize size f ++ t, p, none⟩ = (f, size, ⟨t, p + (f + 1), none⟩, none) := by
  obtain ⟨h1, h2, h3⟩ := h
  cases f with
  | zero =>
    rw [pow7_one] at h2
    simp only [readSizeSize, writeSize, List.cons_append, List.nil_append, Option.isSome_none, Nat.mod_eq_of_lt h2]
    rw [if_neg (by simp), if_neg (by omega)]
  | succ k =>
    -- the first byte holds the top group: nothing of `size` lies above the field
    have hx : size / 2 ^ (7 * (k + 1)) < 128 := by
      rw [Nat.div_lt_iff_lt_mul (Nat.two_pow_pos _), Nat.mul_comm, ← pow7_succ']; exact h2
    have := sizeLoop_write L size t h3 k 0 1 (p + 1) (by omega) (by omega)
    simp only [readSizeSize, writeSize, List.cons_append, Option.isSome_none]
    generalize size / 2 ^ (7 * (k + 1)) = x at hx this ⊢
    rw [if_neg (by simp), if_pos (Nat.le_add_left ..),
      show (x % 128 + 128) % 128 = x by rw [Nat.add_mod_right, Nat.mod_mod, Nat.mod_eq_of_lt hx], this]
    simp only [Nat.zero_add, Nat.add_assoc, Nat.add_comm 1 k]

/-- Where `sizeLoop`, entered with `sfs` bytes counted and the groups `acc` read, stops on bytes `rest`: behind exactly what
    `writeSize` writes in `k + 1` bytes for the value `size` it returns, `acc` being the groups above those. -/
structure SizeRead (rest : Bytes) (acc sfs pos f size : Nat) (s' : Rd) (k : Nat) : Prop where
  count : f = sfs + k + 1
  written : rest = writeSize size k ++ s'.rest
  pos_eq : s'.pos = pos + (k + 1)
  above : acc = size / 2 ^ (7 * (k + 1))
  size_lt : size < 2 ^ 64

/-- a size field read without error: at least one byte was consumed, and `SizeRead` if all of them are bytes -/
theorem sizeLoop_ok (L : Int) : ∀ (rest : Bytes) (acc sfs nr pos f size : Nat) (s' : Rd),
    sizeLoop L acc sfs nr rest pos = (f, size, s', none) → s'.err = none → sfs < 256 →
    s'.rest.length < rest.length ∧ (IsBytes rest → ∃ k, SizeRead rest acc sfs pos f size s' k) := by
  intro rest
  induction rest with
  | nil =>
    intro acc sfs nr pos f size s' h he _
    rw [sizeLoop] at h
    cases (ite_ne_left (ite_ne_left h nofun).2 nofun).2
    cases he
  | cons b r ih =>
    intro acc sfs nr pos f size s' h he hs
    rw [sizeLoop] at h
    obtain ⟨hov, h⟩ := ite_ne_left (ite_ne_left h nofun).2 nofun
    have hacc : acc < 2 ^ 57 := by omega
    have hs1 : sfs + 1 < 256 := by omega
    clear hov hs  -- keeps the `omega` calls below cheap
    have hlt : acc * 128 + b % 128 < 2 ^ 64 := by omega
    have hgrp : (acc * 128 + b % 128) / 128 = acc ∧ (acc * 128 + b % 128) % 128 = b % 128 := by
      -- by the lemmas: `omega` is slow on `/` and `%` of a product
      rw [Nat.mul_comm, Nat.mul_add_div (by decide), Nat.mod_div_self, Nat.mul_add_mod, Nat.mod_mod]
      exact ⟨rfl, rfl⟩
    dsimp only at h
    rw [W64, Nat.mod_eq_of_lt hlt, Nat.mod_eq_of_lt hs1] at h
    by_cases hge : b ≥ 128
    · rw [if_pos hge] at h
      obtain ⟨hlen, ih⟩ := ih _ _ _ _ _ _ _ h he hs1
      refine ⟨Nat.lt_succ_of_lt hlen, fun hb => ?_⟩
      obtain ⟨k, d⟩ := ih hb.tail
      have hb256 : b < 256 := hb b List.mem_cons_self
      exact ⟨k + 1, {
        count := by rw [d.count]; omega
        written := by rw [writeSize, List.cons_append, ← d.written, ← d.above, hgrp.2]; congr 1; omega
        pos_eq := by rw [d.pos_eq]; omega
        above := by rw [pow7_succ', ← Nat.div_div_eq_div_mul, ← d.above, hgrp.1]
        size_lt := d.size_lt }⟩
    · rw [if_neg hge] at h
      cases h
      exact ⟨Nat.lt_succ_self _, fun _ => ⟨0, {
        count := rfl
        written := by rw [writeSize, List.cons_append, List.nil_append, hgrp.2, Nat.mod_eq_of_lt (Nat.lt_of_not_le hge)]
        pos_eq := rfl
        above := by rw [pow7_one, hgrp.1]
        size_lt := hlt }⟩⟩

theorem readSizeSize_ok {L : Int} {s : Rd} {f size : Nat} {s1 : Rd} (h : readSizeSize L s = (f, size, s1, none))
    (h1 : s1.err = none) :
    s.err = none ∧ s1.rest.length < s.rest.length
      ∧ (IsBytes s.rest → Consumed s s1 (writeSize size f) ∧ size < 2 ^ 64) := by
  unfold readSizeSize at h
  by_cases h0 : s.err.isSome
  · rw [if_pos h0] at h; cases h; rw [h1] at h0; cases h0
  rw [if_neg h0] at h
  refine ⟨by simpa using h0, ?_⟩
  split at h
  · cases h; cases h1
  rename_i b r hr
  rw [hr]
  by_cases hge : b ≥ 128
  · rw [if_pos hge] at h
    obtain ⟨hlen, hk⟩ := sizeLoop_ok L r _ _ _ _ _ _ _ h h1 (by decide)
    refine ⟨Nat.lt_succ_of_lt hlen, fun hb => ?_⟩
    obtain ⟨k, d⟩ := hk hb.tail
    have hb256 : b < 256 := hb b List.mem_cons_self
    obtain rfl : f = k + 1 := by rw [d.count, Nat.zero_add]
    refine ⟨⟨?_, by rw [d.pos_eq, writeSize_length, Nat.add_assoc, Nat.add_comm 1]⟩, d.size_lt⟩
    rw [hr, writeSize, List.cons_append, ← d.written, ← d.above, Nat.mod_mod]; congr 1; omega
  · rw [if_neg hge] at h
    cases h
    refine ⟨Nat.lt_succ_self _, fun hb => ⟨⟨?_, rfl⟩, ?_⟩⟩
    · rw [hr, writeSize, List.cons_append, List.nil_append, Nat.mod_eq_of_lt (Nat.lt_of_not_le hge)]
    · exact Nat.lt_trans (hb size List.mem_cons_self) (by decide)

/-- The optional-descriptor loop that `DecodeDecoderConfigDescriptor` and `DecodeESDescriptor` share (`dcLoop`,
    `esLoop`), with what happens at its two exits left open: `exit others none` when the declared size is used up,
    `exit others (some unk)` when a probe failed and the rest was kept as `UnknownData`. -/
def optLoop {α : Type} (dec : Rd → Int → Res Desc) (sizeI : Int) (dataStart : Nat) (tooFar : Err)
    (exit : List Desc → Option Bytes → Rd → Res α) : Nat → Rd → List Desc → Res α
  | 0, s, _ => (.error .fuel, s)
  | m + 1, s, others =>
    let left := wrapI64 (sizeI - ((s.pos - dataStart : Nat) : Int))
    if left = 0 then exit others none s
    else if left < 0 then (.error tooFar, s)
    else
      match dec s left with
      | (.error e, s') =>
        if e.isFuel then (.error .fuel, s')
        else
          let (unk, s'') := readBytes left (setPos s s')
          exit others (some unk) s''
      | (.ok d, s') => optLoop dec sizeI dataStart tooFar exit m s' (others ++ [d])

def dcExit (h : DcHdr) (others : List Desc) (unk : Option Bytes) (s : Rd) : Res Desc :=
  (.ok (.dc { h with unk := unk.getD h.unk } others), s)

def esExit (size : Nat) (e : ES) (others : List Desc) (unk : Option Bytes) (s : Rd) : Res ES :=
  match unk with
  | some u => (.ok { e with others := others, unk := u }, s)
  | none =>
    let ed := { e with others := others }
    if size ≠ ed.size % W64 then (.error .sizeDiff, s)
    else if s.err.isSome then (.error (accErr s), s)
    else (.ok ed, s)

theorem dcLoop_eq (dec : Rd → Int → Res Desc) (sizeI : Int) (ds : Nat) (h : DcHdr) :
    ∀ m s acc, dcLoop dec sizeI ds h m s acc = optLoop dec sizeI ds .tooFarDC (dcExit h) m s acc := by
  intro m
  induction m with
  | zero => intro s acc; rfl
  | succ m ih => intro s acc; simp only [dcLoop, optLoop, ih]; rfl

theorem esLoop_eq (dec : Rd → Int → Res Desc) (size ds : Nat) (e : ES) :
    ∀ m s acc, esLoop dec size ds e m s acc = optLoop dec (toI64 size) ds .tooFarES (esExit size e) m s acc := by
  intro m
  induction m with
  | zero => intro s acc; rfl
  | succ m ih => intro s acc; simp only [esLoop, optLoop, ih]; rfl

theorem encodeDsi_length (d : Option (Nat × Bytes)) : (encodeDsi d).length = dsiSizeSize d := by
  cases d with
  | none => rfl
  | some x => obtain ⟨f, x⟩ := x; simp [encodeDsi, dsiSizeSize, writeSize_length]; omega

mutual
theorem encodeDesc_length : ∀ d : Desc, (encodeDesc d).length = d.sizeSize
  | .dc h others => by
    have := encodeDescs_length others
    simp [encodeDesc, Desc.sizeSize, Desc.sfsOf, Desc.size, writeSize_length, beBytes_length, encodeDsi_length, this]
    omega
  | .dsi f data => by simp [encodeDesc, Desc.sizeSize, Desc.sfsOf, Desc.size, writeSize_length]; omega
  | .sl f c m => by simp [encodeDesc, Desc.sizeSize, Desc.sfsOf, Desc.size, writeSize_length, beBytes_length]; omega
  | .raw t f data => by simp [encodeDesc, Desc.sizeSize, Desc.sfsOf, Desc.size, writeSize_length]; omega
theorem encodeDescs_length : ∀ l : List Desc, (encodeDescs l).length = sizeSizes l
  | [] => rfl
  | d :: ds => by
    have h1 := encodeDesc_length d
    have h2 := encodeDescs_length ds
    simp [encodeDescs, sizeSizes, h1, h2, Desc.sizeSize]
end

theorem encodeSl_length (d : Option (Nat × Nat × Bytes)) : (encodeSl d).length = slSizeSize d := by
  cases d with
  | none => rfl
  | some x =>
    obtain ⟨f, c, m⟩ := x
    simp [encodeSl, slSizeSize, encodeDesc_length, Desc.sizeSize, Desc.sfsOf, Desc.size]

theorem encodeES_length (e : ES) : (encodeES e).length = e.sizeSize := by
  simp only [encodeES, ES.sizeSize, ES.size, List.length_cons, List.length_append, writeSize_length, beBytes_length,
    encodeDesc_length, encodeSl_length, encodeDescs_length, apply_ite List.length, List.length_nil]
  omega

theorem encodeEsds_length (e : Esds) : (encodeEsds e).length = 4 + e.es.sizeSize := by
  simp [encodeEsds, beBytes_length, encodeES_length]

theorem encodeEsdsBox_length (e : Esds) : (encodeEsdsBox e).length = sizeEsds e := by
  simp [encodeEsdsBox, beBytes_length, encodeEsds_length, sizeEsds]; omega

theorem sizeSizes_cons (d : Desc) (ds : List Desc) : sizeSizes (d :: ds) = d.sizeSize + sizeSizes ds := by
  rw [sizeSizes, Desc.sizeSize]

theorem sizeSizes_append (a b : List Desc) : sizeSizes (a ++ b) = sizeSizes a + sizeSizes b := by
  induction a with
  | nil => rw [List.nil_append, sizeSizes, Nat.zero_add]
  | cons d ds ih => rw [List.cons_append, sizeSizes, sizeSizes, ih]; omega

theorem encodeDescs_append (a b : List Desc) : encodeDescs (a ++ b) = encodeDescs a ++ encodeDescs b := by
  induction a with
  | nil => rfl
  | cons d ds ih => rw [List.cons_append, encodeDescs, encodeDescs, ih, List.append_assoc]

/-- a byte and 24 bits share a 32-bit word: version and flags, stream type and buffer size -/
theorem mul_pow24_add_div_mod {a b : Nat} (ha : a < 256) (hb : b < 2 ^ 24) :
    a * 2 ^ 24 + b < 256 ^ 4 ∧ (a * 2 ^ 24 + b) / 2 ^ 24 = a ∧ (a * 2 ^ 24 + b) % 2 ^ 24 = b := by
  omega

theorem beBytes4_split (w : Nat) : beBytes 4 (w / 2 ^ 24 % 256 * 2 ^ 24 + w % 2 ^ 24) = beBytes 4 w := by
  -- the left argument is `w % (2 ^ 24 * 256)`, and `2 ^ 24 * 256 = 256 ^ 4`: put back the multiple of `256 ^ 4` that
  -- `beBytes 4` ignores
  rw [Nat.mul_comm, Nat.add_comm, ← Nat.mod_mul, ← beBytes_add_mul 4 (w / (2 ^ 24 * 256)), Nat.div_add_mod']

/-- `UnknownData` the decoder reproduces: nothing, a single byte, or bytes starting with the ES tag (3) — the
    simple syntactic cases in which the descriptor probe on these bytes fails -/
def UnkOK (u : Bytes) : Prop := u = [] ∨ u.length = 1 ∨ u.head? = some 3

def Desc.isDsi : Desc → Bool
  | .dsi .. => true
  | _ => false
def Desc.isSl : Desc → Bool
  | .sl .. => true
  | _ => false
/-- the first element (if any) is not of the given kind -/
def headNot (p : Desc → Bool) : List Desc → Prop
  | [] => True
  | d :: _ => p d = false

def DsiWF : Option (Nat × Bytes) → Prop
  | none => True
  | some (f, x) => SzOK f x.length

mutual
def Desc.WF : Desc → Prop
  | .dc h others =>
      SzOK h.sfs (Desc.dc h others).size ∧ h.objType < 256 ∧ h.streamType < 256 ∧ h.bufSize < 2 ^ 24
      ∧ h.maxBr < 2 ^ 32 ∧ h.avgBr < 2 ^ 32 ∧ DsiWF h.dsi ∧ WFs others
      ∧ (h.dsi = none → headNot Desc.isDsi others) ∧ UnkOK h.unk
      ∧ (h.unk ≠ [] → h.dsi ≠ none ∨ others ≠ [])
  | .dsi f data => SzOK f data.length
  | .sl f cfg more => SzOK f (1 + more.length) ∧ cfg < 256
  | .raw tag f data => tag < 256 ∧ tag ≠ 3 ∧ tag ≠ 4 ∧ tag ≠ 5 ∧ tag ≠ 6 ∧ SzOK f data.length
def WFs : List Desc → Prop
  | [] => True
  | d :: ds => d.WF ∧ WFs ds
end

def SlWF : Option (Nat × Nat × Bytes) → Prop
  | none => True
  | some (f, c, m) => SzOK f (1 + m.length) ∧ c < 256

structure ES.WF (e : ES) : Prop where
  sz : SzOK e.sfs e.size
  esId : e.esId < 2 ^ 16
  flags : e.flags < 256
  dep : if flagDep e.flags then e.dependsOn < 2 ^ 16 else e.dependsOn = 0
  url : if flagUrl e.flags then e.url.length < 256 else e.url = []
  ocr : if flagOcr e.flags then e.ocr < 2 ^ 16 else e.ocr = 0
  dc : (Desc.dc e.dc e.dcOthers).WF
  sl : SlWF e.sl
  others : WFs e.others
  slFirst : e.sl = none → headNot Desc.isSl e.others
  unk : UnkOK e.unk

structure Esds.WF (e : Esds) : Prop where
  version : e.version < 256
  flags : e.flags < 2 ^ 24
  es : e.es.WF
  /-- the box fits a 32-bit size field -/
  size : sizeEsds e < 2 ^ 32

end Mp4ff.Esds
