import Mp4ff.Lemmas.BitsWriter
import Mp4ff.Lemmas.ExpGolomb
/-!
Sequences of operations (`Op`: field, flag, ue(v), se(v)) on the EBSP writer and reader. An operation is written as its
`Op.fields`, so a sequence closed with the rbsp trailing bits leaves the escaped image of a byte-aligned plain writer
holding `opsBits ops`, the stop bit and zero bits (`EW.written`); a reader started on it sees those bits
(`ER.init_written`), and `readOp` takes an operation's bits and returns its value (`ER.reads_op`).
-/
namespace Mp4ff.Bits

/-- fields of an op as handed to `Write` -/
def Op.fields : Op → List (Nat × Nat)
  | .fld k v => [(k, v)]
  | .flag b => [(1, if b then 1 else 0)]
  | .ue nr => ueFields nr
  | .se x => ueFields (seToUe x)

def Op.bits (op : Op) : List Bool := fieldBits op.fields

def opsBits : List Op → List Bool
  | [] => []
  | op :: ops => op.bits ++ opsBits ops

theorem Op.fields_le (op : Op) (h : op.OK) : ∀ kv ∈ op.fields, kv.1 ≤ 56 := by
  cases op with
  | fld k v => simpa [Op.fields] using Nat.le_trans h.2.1 (by decide)
  | flag b => simp [Op.fields]
  | ue nr => exact ueFields_le nr h
  | se x => exact ueFields_le _ (seToUe_lt h)

theorem EW.writeOp_eq (w : EW) (op : Op) (h : op.OK) : w.writeOp op = w.writeAll op.fields := by
  cases op with
  | fld | flag => rfl
  | ue nr => exact EW.writeExpGolomb_eq w nr h
  | se x => exact EW.writeExpGolomb_eq w _ (seToUe_lt h)

theorem EW.foldl_writeOp (ops : List Op) (hok : ∀ op ∈ ops, op.OK) : ∀ w : EW,
    ops.foldl EW.writeOp w = w.writeAll (ops.flatMap Op.fields) := by
  induction ops with
  | nil => intro w; rfl
  | cons op ops ih =>
    intro w
    rw [List.foldl_cons, List.flatMap_cons, ih (fun o h => hok o (by simp [h])), EW.writeOp_eq w op (hok op (by simp)),
      EW.writeAll_append]

theorem fieldBits_flatMap_fields (ops : List Op) : fieldBits (ops.flatMap Op.fields) = opsBits ops := by
  induction ops with
  | nil => rfl
  | cons op ops ih => simp [opsBits, fieldBits_append, ih, Op.bits]

/-- plain-writer counterpart of `WriteRbspTrailingBits` -/
def BW.trailing (w : BW) : BW :=
  let w1 := w.write 1 1
  if w1.n > 0 then w1.write 0 (8 - w1.n) else w1

theorem BW.trailing_spec (w : BW) (hw : w.Inv) :
    w.trailing.Inv ∧ w.trailing.n = 0 ∧
      ∃ m, w.trailing.abs = w.abs ++ true :: List.replicate m false := by
  have h1 := BW.write_spec w 1 1 hw (by decide)
  simp only [BW.trailing]
  split
  · have hlt : (w.write 1 1).n < 8 := h1.1.1
    have h2 := BW.write_spec (w.write 1 1) 0 (8 - (w.write 1 1).n) h1.1 (by omega)
    refine ⟨h2.1, by rw [BW.write_n]; omega, 8 - (w.write 1 1).n, ?_⟩
    rw [h2.2, h1.2, lowBits_zero_right, List.append_assoc]; rfl
  · exact ⟨h1.1, by omega, 0, h1.2⟩

theorem EWRel.trailing (e : EW) (w : BW) (h : EWRel e w) :
    EWRel e.writeRbspTrailingBits w.trailing := by
  unfold EW.writeRbspTrailingBits EW.stuffByteWithZeros BW.trailing
  have h1 := EWRel.write e w h 1 1
  have hn : (e.write 1 1).n = (w.write 1 1).n := h1.1
  simp only [hn]
  split
  · exact EWRel.write _ _ h1 0 _
  · exact h1

theorem EW.written (os : List Op) (hok : ∀ op ∈ os, op.OK) :
    ∃ w : BW, EWRel (os.foldl EW.writeOp {}).writeRbspTrailingBits w ∧ IsBytes w.out ∧ w.n = 0 ∧
      ∃ m, bitsOfBytes w.out = opsBits os ++ true :: List.replicate m false := by
  have hbw := BW.writeAll_spec (os.flatMap Op.fields) {} BW.init_inv
    (List.forall_mem_flatMap.2 fun op h => op.fields_le (hok op h))
  obtain ⟨t1, t2, m, t3⟩ := BW.trailing_spec _ hbw.1
  refine ⟨_, ?_, t1.bytes, t2, m, ?_⟩
  · rw [EW.foldl_writeOp os hok]
    exact EWRel.trailing _ _ (EWRel.writeAll _ _ _ EWRel.init)
  · rw [BW.abs, t2, hbw.2, fieldBits_flatMap_fields] at t3
    exact (List.append_nil _).symm.trans t3

theorem ER.init_written (os : List Op) (hok : ∀ op ∈ os, op.OK) :
    ∃ P m, ({ rest := ((os.foldl EW.writeOp {}).writeRbspTrailingBits).out } : ER).Inv P ∧
      ({ rest := ((os.foldl EW.writeOp {}).writeRbspTrailingBits).out } : ER).abs P =
        opsBits os ++ (true :: List.replicate m false) := by
  obtain ⟨w, hrel, hB, _, m, hbits⟩ := EW.written os hok
  rw [hrel.out_eq]
  exact ⟨w.out, m, ER.init_spec hB, hbits⟩

open Dec in
theorem ER.reads_op {op : Op} (hop : op.OK) : ER.Reads (fun e => e.readOp op) op.bits op.value := by
  cases op with
  | fld k v =>
    exact (ER.reads_field hop.2.2 (Nat.le_trans hop.2.1 (by decide))).bind (f := fun x => pure (Int.ofNat x)) (.pure rfl)
  | flag b =>
    cases b <;> exact (ER.reads_flag _).map (if · then 1 else 0)
  | ue nr =>
    rw [Op.bits, Op.fields, fieldBits_ueFields]
    exact (ER.reads_ue hop).map Int.ofNat
  | se x =>
    rw [Op.bits, Op.fields, fieldBits_ueFields]
    exact ER.reads_se hop

theorem ER.readOp_written {op : Op} (hop : op.OK) :
    (({ rest := ((({} : EW).writeOp op).writeRbspTrailingBits).out } : ER).readOp op).2 = op.value := by
  obtain ⟨P, m, hinv, habs⟩ := ER.init_written [op] (List.forall_mem_singleton.2 hop)
  rw [opsBits, opsBits, List.append_nil] at habs
  obtain ⟨_, _, q, _⟩ := ER.reads_op hop hinv habs
  exact congrArg Prod.snd q

open Dec in
theorem ER.reads_ops (ops : List Op) (hok : ∀ op ∈ ops, op.OK) :
    ER.Reads (fun e => e.readOps ops) (opsBits ops) (ops.map Op.value) := by
  induction ops with
  | nil => exact .pure rfl
  | cons op ops ih =>
    exact (ER.reads_op (hok op (by simp))).bind (f := fun v => (v :: ·) <$> fun e => e.readOps ops)
      ((ih fun o h => hok o (by simp [h])).map _)

end Mp4ff.Bits
