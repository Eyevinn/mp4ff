import Mp4ff.Lemmas.Basics
import Mp4ff.Lemmas.ProtectEnc
/-!
"The same boxes up to protection signalling" is equality under `stripM`.  Encryption (`stripM_encChildren`), writing and
decoding (`stripM_placeChildren`, `stripM_decodeTrafs`), the per-traf part of decryption (`decryptTrafs_spec`) and the
removal of pssh boxes (`filter_pssh_spec`) all keep it, trun maps commute with it (`stripM_mapTruns`), and the truns are a
function of it (`allTrunsOf_stripM`).  So what `DecryptFragment` and writing do to any fragment, encrypted by this library
or not, is said without a round trip: `decryptFrag_spec`, `layout_payload`.
-/
namespace Mp4ff.Protect

/-- everything that is not protection signalling: pssh boxes dropped, saiz / saio / senc dropped from every traf -/
def stripM : List MoofChild → List MoofChild
  | [] => []
  | .pssh _ :: rest => stripM rest
  | .traf t :: rest => .traf { t with children := removeProt t.children } :: stripM rest
  | c :: rest => c :: stripM rest

theorem stripM_clear (l : List MoofChild) (h : clearM l = true) : stripM l = l := by
  fun_induction clearM l <;> simp_all [stripM, removeProt_clear]

theorem trunsOf_removeProt (l : List TrafChild) : trunsOf (removeProt l) = trunsOf l := by
  unfold removeProt
  induction l with
  | nil => rfl
  | cons c l ih => cases c <;> simp [trunsOf, ih]

theorem allTrunsOf_stripM (l : List MoofChild) : allTrunsOf (stripM l) = allTrunsOf l := by
  fun_induction stripM l <;> simp_all [allTrunsOf, trafsOf, Traf.truns, trunsOf_removeProt]

theorem removeProt_addProt (a : Saiz) (o : Int) (s : Senc) (t : Traf) :
    removeProt (addProt a o s t).children = removeProt t.children := by
  simp only [addProt]
  rw [removeProt_append, removeProt_saiz_saio_senc]
  simp

theorem stripM_encChildren {ps : Nat → Option (Scheme × List Nat)} {l l' : List MoofChild} {off : Nat}
    (h : encChildren ps l off = some l') : stripM l' = stripM l := by
  replace h := encChildren_rel h
  induction h with
  | nil => rfl
  | other _ ih | pssh _ ih => simp [stripM, ih]
  | traf ht _ ih =>
    rcases ht.eq_or with rfl | ⟨a, o, s, rfl⟩
    · simp [stripM, ih]
    · simp [stripM, ih, removeProt_addProt]; rfl

theorem allTruns_encChildren {ps : Nat → Option (Scheme × List Nat)} {l l' : List MoofChild} {off : Nat}
    (h : encChildren ps l off = some l') : allTrunsOf l' = allTrunsOf l := by
  rw [← allTrunsOf_stripM l', stripM_encChildren h, allTrunsOf_stripM]

theorem removeProt_idem (l : List TrafChild) : removeProt (removeProt l) = removeProt l := by
  simp [removeProt]

theorem decryptTraf_spec {di : DecInfo} {ms : Nat} {t t' : Traf} {n : Nat} (h : decryptTraf di ms t = some (t', n)) :
    n + t'.size = t.size ∧ removeProt t'.children = removeProt t.children ∧ t'.trackID = t.trackID := by
  have := removed_add_remaining t.children
  unfold decryptTraf at h
  -- two branches accept (the others go with `simp at h`): a track without decryption info is left alone, a protected one
  -- loses its protection boxes, whose sizes `removedBytes` adds up (`this`)
  repeat' split at h
  all_goals simp at h
  all_goals obtain ⟨rfl, rfl⟩ := h
  · simp
  · exact ⟨by simp only [Traf.size]; omega, removeProt_idem _, rfl⟩

theorem decryptTrafs_spec {di : DecInfo} {ms : Nat} {l l' : List MoofChild} {n : Nat}
    (h : decryptTrafs di ms l = some (l', n)) : n + msizes l' = msizes l ∧ stripM l' = stripM l := by
  -- the failing branches go with `cases h`
  fun_induction decryptTrafs di ms l generalizing l' n <;> cases h
  · exact ⟨rfl, rfl⟩
  · -- a traf `t` that `decryptTraf` accepts (`ht`), in front of children that are accepted (`hr`)
    next t _ _ _ ht _ _ hr ih =>
    obtain ⟨h1, h2⟩ := ih hr
    obtain ⟨g1, g2, g3⟩ := decryptTraf_spec ht
    exact ⟨by simp only [msizes_cons, MoofChild.size]; omega, by simp only [stripM, h2, g2, g3]⟩
  · -- a child `c` that is no traf (`hc`)
    next c _ hc _ _ hr ih =>
    obtain ⟨h1, h2⟩ := ih hr
    refine ⟨by simp only [msizes_cons]; omega, ?_⟩
    cases c with
    | traf t => exact (hc t rfl).elim
    | _ => simp only [stripM, h2]

theorem stripM_mapTruns (h : Trun → Trun) (l : List MoofChild) : stripM (mapTruns h l) = mapTruns h (stripM l) := by
  unfold mapTruns
  fun_induction stripM l <;> simp_all [mapTrafs, stripM, removeProt_mapTrunsC]

theorem filter_pssh_spec : ∀ l : List MoofChild,
    msizes (l.filter fun c => !c.isPssh) + msizes (l.filter MoofChild.isPssh) = msizes l ∧
    stripM (l.filter fun c => !c.isPssh) = stripM l
  | [] => ⟨rfl, rfl⟩
  | c :: l => by
    obtain ⟨h1, h2⟩ := filter_pssh_spec l
    cases c <;> exact ⟨by simp [List.filter_cons]; omega, by simp [stripM, h2]⟩

theorem shiftTrun_size (n : Nat) (r : Trun) : (shiftTrun n r).size = r.size := rfl

/-- the wrapping subtraction by which `DecryptFragment` moves the mdat, when nothing wraps (`M` = 2^64; a variable,
    because rewriting with the numeral written out is slow to check) -/
theorem sub_mod_of_le {m r M : Nat} (hr : r ≤ m) (hm : m < M) : (m + M - r % M) % M = m - r := by
  rw [Nat.mod_eq_of_lt (Nat.lt_of_le_of_lt hr hm), wrap_sub hr hm]

theorem payloadPos_shift {f g : Frag} {removed : Nat} (hs : g.moofStart = f.moofStart) (hh : g.mdatHdr = f.mdatHdr)
    (hm : g.mdatStart = f.mdatStart - removed) (hle : removed ≤ f.mdatStart) (r : Trun) :
    g.payloadPos (shiftTrun removed r) = f.payloadPos r := by
  simp only [Frag.payloadPos, shiftTrun, hs, hh, hm]
  omega

theorem decryptFrag_spec {di : DecInfo} {f g : Frag} (h : decryptFrag di f = some g) :
    ∃ removed, removed + g.moofSize = f.moofSize ∧
      stripM g.children = mapTruns (shiftTrun removed) (stripM f.children) ∧
      g.allTruns = f.allTruns.map (shiftTrun removed) ∧
      (f.mdatStart > f.moofStart → f.moofStart + f.moofSize ≤ f.mdatStart → f.mdatStart < 2 ^ 64 →
        ∀ r, g.payloadPos (shiftTrun removed r) = f.payloadPos r) := by
  unfold decryptFrag at h
  split at h
  · simp at h
  · next ch n hd =>
    simp at h
    subst h
    obtain ⟨h1, h3⟩ := decryptTrafs_spec hd
    obtain ⟨p1, p3⟩ := filter_pssh_spec ch
    have hs : stripM (mapTruns (shiftTrun (n + msizes (ch.filter MoofChild.isPssh))) (ch.filter fun c => !c.isPssh))
        = mapTruns (shiftTrun (n + msizes (ch.filter MoofChild.isPssh))) (stripM f.children) := by
      simp only [stripM_mapTruns, p3, h3]
    have hsz : n + msizes (ch.filter MoofChild.isPssh) + (8 + msizes (ch.filter fun c => !c.isPssh)) = f.moofSize := by
      simp only [Frag.moofSize]; omega
    refine ⟨n + msizes (ch.filter MoofChild.isPssh), ?_, hs, ?_, fun hpos hend hfit => ?_⟩
    · simpa only [Frag.moofSize, msizes_mapTruns _ (shiftTrun_size _)] using hsz
    · rw [Frag.allTruns, ← allTrunsOf_stripM, hs, allTrunsOf_mapTruns, allTrunsOf_stripM]; rfl
    · have hle : n + msizes (ch.filter MoofChild.isPssh) ≤ f.mdatStart := by omega
      exact payloadPos_shift rfl rfl (by simp only [if_pos hpos, sub_mod_of_le hle hfit]) hle

theorem removeProt_placeTrafChildren : ∀ l pos, removeProt (placeTrafChildren l pos) = removeProt l
  | [], _ => rfl
  | c :: l, pos => by
    have ih := removeProt_placeTrafChildren l (pos + c.size)
    unfold removeProt at ih ⊢
    cases c <;> simp [placeTrafChildren, ih]

theorem stripM_placeChildren (l : List MoofChild) (pos : Nat) : stripM (placeChildren l pos) = stripM l := by
  fun_induction stripM l generalizing pos <;> simp_all [placeChildren, stripM, removeProt_placeTrafChildren]

theorem removeProt_markSenc (l : List TrafChild) : removeProt (markSenc l).1 = removeProt l := by
  fun_induction markSenc l <;> simp_all [removeProt, List.filter_cons]

theorem removeProt_markUuidSenc (l : List TrafChild) : removeProt (markUuidSenc l).1 = removeProt l := by
  fun_induction markUuidSenc l <;> simp_all [removeProt, List.filter_cons]

theorem removeProt_markParsed (l : List TrafChild) : removeProt (markParsed l) = removeProt l := by
  have := removeProt_markSenc l
  unfold markParsed
  split <;> simp_all [removeProt_markUuidSenc]

theorem stripM_decodeTrafs {ms : Nat} {l l' : List MoofChild} (h : decodeTrafs ms l = some l') :
    stripM l' = stripM l := by
  fun_induction decodeTrafs ms l generalizing l'
  case case1 => cases h; rfl
  case case3 => cases h  -- the saio check fails
  -- left: a traf whose senc is parsed now (`markParsed`), a traf that stays, a child that is no traf
  all_goals
    obtain ⟨r', hr', rfl⟩ := Option.map_eq_some_iff.1 h
    rename_i ih
    have := ih hr'
  · simp [stripM, this, removeProt_markParsed]
  · simp [stripM, this]
  · next c _ _ => cases c <;> simp_all [stripM]

/-- bytes of the truns written before `r` -/
def rankBytes (ts : List Trun) (r : Trun) : Nat :=
  ((ts.filter fun u => decide (u.writeOrder < r.writeOrder)).map Trun.dataSize).sum

theorem trunLayout_dataOffset {ts : List Trun} (hman : offsetsUnmanaged ts = false) (size hdr : Nat) (r : Trun) :
    (trunLayout size hdr ts r).dataOffset = ((size + hdr + rankBytes ts r : Nat) : Int) := by
  simp only [trunLayout, hman, rankBytes]
  rfl

theorem layout_payload {f fl : Frag} (h : layout f = some fl) (hman : offsetsUnmanaged f.allTruns = false) :
    fl.allTruns = f.allTruns.map (trunLayout f.moofSize f.mdatHdr f.allTruns) ∧
    ∀ r, fl.payloadPos (trunLayout f.moofSize f.mdatHdr f.allTruns r) = (rankBytes f.allTruns r : Int) := by
  obtain ⟨ch, hd, rfl⟩ := Option.map_eq_some_iff.1 h
  have h1 : allTrunsOf ch = f.allTruns := by
    rw [← allTrunsOf_stripM, stripM_decodeTrafs hd, stripM_placeChildren, allTrunsOf_stripM]; rfl
  refine ⟨?_, fun r => ?_⟩
  · simp only [Frag.allTruns, allTrunsOf_mapTruns, h1]
  · simp only [Frag.payloadPos, trunLayout_dataOffset hman]
    omega

end Mp4ff.Protect
