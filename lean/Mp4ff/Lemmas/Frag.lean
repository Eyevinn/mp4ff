import Mp4ff.Model.Frag
/-!
What a run reads back as after `OptimizeTfhdTrun`, and where `GetFullSamples` finds the bytes. `optimize` is unfolded
once, in `optimize_cons_cons`, which gives its closed form `optimizePar`: the four blocks (duration, size, flags,
composition offset) side by side, every field an `if` over the test of its own block. Idempotence (`test_cleared`) and
`optimize_readBack` (optimising does not change what a run resolves to; `read_moved`, once per field) are read off that
form, and the theorems about fresh runs are corollaries. The rest are inductions over running sums.
-/
namespace Mp4ff.Frag

/-- a run as the fragment builder creates it (`CreateTrun`: every per-sample field present, no first-sample-flags) -/
def Trun.Fresh (t : Trun) : Prop :=
  t.hasDur = true ∧ t.hasSize = true ∧ t.hasFlags = true ∧ t.hasCto = true ∧ t.firstFlags = none

theorem Trun.Fresh.firstFlags {t : Trun} (h : t.Fresh) : t.firstFlags = none := h.2.2.2.2

theorem zipIdx_map_zipIdx_map {α β γ : Type} (f : α × Nat → β) (g : β × Nat → γ) (l : List α) (k : Nat) :
    (((l.zipIdx k).map f).zipIdx k).map g = (l.zipIdx k).map (fun p => g (f p, p.2)) := by
  induction l generalizing k with
  | nil => rfl
  | cons a l ih => simp [List.zipIdx_cons, ih]

/-- what `resolve` after `wire` makes of sample `p.1` at index `p.2` -/
def readBackElem (tfhd : Tfhd) (trex : Trex) (t : Trun) (p : Sample × Nat) : Sample :=
  { flags := if t.hasFlags then p.1.flags
             else if p.2 > 0 ∨ t.firstFlags.isNone then tfhd.defFlags.getD trex.defFlags
             else if p.2 = 0 then t.firstFlags.getD 0 else 0,
    dur := if t.hasDur then p.1.dur else tfhd.defDur.getD trex.defDur,
    size := if t.hasSize then p.1.size else tfhd.defSize.getD trex.defSize,
    cto := if t.hasCto then p.1.cto else 0 }

theorem readBack_eq (tfhd : Tfhd) (trex : Trex) (t : Trun) :
    readBack tfhd trex t = t.samples.zipIdx.map (readBackElem tfhd trex t) := by
  unfold readBack resolve wire
  rw [zipIdx_map_zipIdx_map]
  apply List.map_congr_left
  rintro ⟨s, i⟩ _
  simp only [readBackElem, Sample.mk.injEq]
  exact ⟨by cases t.hasFlags <;> rfl, by cases t.hasDur <;> rfl, by cases t.hasSize <;> rfl, trivial⟩

theorem readBack_fresh (tfhd : Tfhd) (trex : Trex) (t : Trun) (h : t.Fresh) :
    readBack tfhd trex t = t.samples := by
  obtain ⟨h1, h2, h3, h4, h5⟩ := h
  have : ∀ p ∈ t.samples.zipIdx, readBackElem tfhd trex t p = p.1 := fun p _ => by simp [readBackElem, h1, h2, h3, h4]
  rw [readBack_eq, List.map_congr_left this, List.zipIdx_map_fst]

theorem optimize_nil {tfhd : Tfhd} {t : Trun} (h : t.samples = []) : optimize tfhd t = none := by
  unfold optimize; rw [h]

theorem optimize_singleton {tfhd : Tfhd} {t : Trun} {s : Sample} (h : t.samples = [s]) :
    optimize tfhd t = some (tfhd, t) := by
  unfold optimize; rw [h]

/-- `OptimizeTfhdTrun` on two or more samples with its four blocks side by side: each tests and writes fields of its
    own only (a per-sample field leaves the trun when it is present and common to all samples — for the flags: to all
    samples but the first) -/
def optimizePar (tfhd : Tfhd) (t : Trun) (s0 s1 : Sample) (rest : List Sample) : Tfhd × Trun :=
  let all := s0 :: s1 :: rest
  let mDur := t.hasDur ∧ all.all (·.dur == s0.dur)
  let mSize := t.hasSize ∧ all.all (·.size == s0.size)
  let mFlags := t.hasFlags ∧ (s1 :: rest).all (·.flags == s1.flags)
  let mCto := t.hasCto ∧ all.all (·.cto == 0)
  ({ defDur := if mDur then some s0.dur else tfhd.defDur,
     defSize := if mSize then some s0.size else tfhd.defSize,
     defFlags := if mFlags then some s1.flags else tfhd.defFlags },
   { t with hasDur := if mDur then false else t.hasDur, hasSize := if mSize then false else t.hasSize,
            hasFlags := if mFlags then false else t.hasFlags, hasCto := if mCto then false else t.hasCto,
            firstFlags := if mFlags ∧ s0.flags ≠ s1.flags then some s0.flags else t.firstFlags })

theorem optimize_cons_cons {tfhd : Tfhd} {t : Trun} {s0 s1 : Sample} {rest : List Sample}
    (h : t.samples = s0 :: s1 :: rest) : optimize tfhd t = some (optimizePar tfhd t s0 s1 rest) := by
  obtain ⟨hasDur, hasSize, hasFlags, hasCto, firstFlags, samples⟩ := t
  subst h
  -- the tests are decided before `optimize` is unfolded: unfolded with the tests open, every block doubles the term
  by_cases c1 : hasDur = true ∧ (s0 :: s1 :: rest).all (fun s => s.dur == s0.dur) = true <;>
  by_cases c2 : hasSize = true ∧ (s0 :: s1 :: rest).all (fun s => s.size == s0.size) = true <;>
  by_cases c3 : hasFlags = true ∧ (s1 :: rest).all (fun s => s.flags == s1.flags) = true <;>
  by_cases c4 : hasCto = true ∧ (s0 :: s1 :: rest).all (fun s => s.cto == 0) = true <;>
  simp only [optimize, optimizePar, c1, c2, c3, c4, ↓reduceIte, true_and, false_and]

theorem optimize_samples (tfhd : Tfhd) (t : Trun) :
    (t.samples = [] → optimize tfhd t = none) ∧
    (t.samples ≠ [] → ∃ tfhd' t', optimize tfhd t = some (tfhd', t') ∧ t'.samples = t.samples) := by
  refine ⟨optimize_nil, fun hne => ?_⟩
  match hs : t.samples with
  | [] => exact absurd hs hne
  | [s] => exact ⟨_, _, optimize_singleton hs, hs⟩
  | s0 :: s1 :: rest => exact ⟨_, _, optimize_cons_cons hs, hs⟩

/-- a block of `OptimizeTfhdTrun` whose test `has ∧ same` held has cleared `has`: its test fails from then on -/
theorem test_cleared (has : Bool) (same : Prop) [Decidable same] :
    ¬ ((if has = true ∧ same then false else has) = true ∧ same) := by
  intro ⟨h1, h2⟩
  split at h1
  · cases h1
  · rename_i hn; exact hn ⟨h1, h2⟩

theorem optimize_idem (tfhd : Tfhd) (t : Trun) (tfhd' : Tfhd) (t' : Trun)
    (ho : optimize tfhd t = some (tfhd', t')) : optimize tfhd' t' = some (tfhd', t') := by
  match hs : t.samples with
  | [] => rw [optimize_nil hs] at ho; cases ho
  | [s] => rw [optimize_singleton hs] at ho; cases ho; exact optimize_singleton hs
  | s0 :: s1 :: rest =>
    rw [optimize_cons_cons hs, Option.some.injEq, optimizePar, Prod.mk.injEq] at ho
    obtain ⟨rfl, rfl⟩ := ho
    refine .trans (optimize_cons_cons hs) ?_
    simp only [optimizePar, test_cleared, false_and, if_false]

/-- one field of one sample across a block of `OptimizeTfhdTrun`: `x` is the sample's own value, `d` and `d'` what the
    defaults give before and after. If the block moved the field (`has ∧ same`) the new default is the sample's value,
    otherwise the default is unchanged; either way the field reads back as before. -/
theorem read_moved {α : Type} (has : Bool) (same : Prop) [Decidable same] (x d' d : α)
    (h1 : has = true ∧ same → d' = x) (h2 : ¬ (has = true ∧ same) → d' = d) :
    (if (if has = true ∧ same then false else has) = true then x else d') = if has = true then x else d := by
  by_cases g : has = true ∧ same
  · simp [g, h1 g]
  · simp [g, h2 g]

/-- optimisation does not change what a run resolves to — any run, any tfhd and trex — provided per-sample flags and
    `first_sample_flags` are not both present (with both, a run whose flags are all equal would keep the old
    `first_sample_flags` and read it back for sample 0) -/
theorem optimize_readBack {tfhd tfhd' : Tfhd} {t t' : Trun} (trex : Trex) (hw : t.hasFlags = true → t.firstFlags = none)
    (ho : optimize tfhd t = some (tfhd', t')) :
    readBack tfhd' trex t' = readBack tfhd trex t := by
  match hs : t.samples with
  | [] => rw [optimize_nil hs] at ho; cases ho
  | [s] => rw [optimize_singleton hs] at ho; cases ho; rfl
  | s0 :: s1 :: rest =>
    rw [optimize_cons_cons hs, Option.some.injEq, optimizePar, Prod.mk.injEq] at ho
    obtain ⟨rfl, rfl⟩ := ho
    rw [readBack_eq, readBack_eq]
    simp only [hs]
    apply List.map_congr_left
    rintro ⟨s, i⟩ hp
    have hm : s ∈ s0 :: s1 :: rest := List.fst_mem_of_mem_zipIdx hp
    dsimp only [readBackElem]
    rw [Sample.mk.injEq]
    -- flags, duration, size, composition offset; for each field first `h1` (the block moved it), then `h2`
    refine ⟨?_, ?_, ?_, ?_⟩ <;> apply read_moved
    · intro g
      simp only [g, hw g.1, and_self, true_and, if_true, Option.getD_some]
      -- sample 0 reads `first_sample_flags` or, if it agrees with the rest, the new default; the others the default
      rw [List.zipIdx_cons, List.mem_cons] at hp
      rcases hp with h0 | hp
      · cases h0
        by_cases hf : s0.flags = s1.flags <;> simp [hf]
      · have hpos : i > 0 := (List.mem_zipIdx hp).1
        simp only [hpos, true_or, if_true]
        exact (eq_of_beq (List.all_eq_true.mp g.2 s (List.fst_mem_of_mem_zipIdx hp))).symm
    · intro g; simp only [g, false_and, if_false]
    · intro g; rw [if_pos g]; exact (eq_of_beq (List.all_eq_true.mp g.2 s hm)).symm
    · intro g; rw [if_neg g]
    · intro g; rw [if_pos g]; exact (eq_of_beq (List.all_eq_true.mp g.2 s hm)).symm
    · intro g; rw [if_neg g]
    · intro g; exact (eq_of_beq (List.all_eq_true.mp g.2 s hm)).symm
    · intro _; rfl

theorem optimize_preserves (tfhd : Tfhd) (trex : Trex) (t : Trun) (h : t.Fresh) (tfhd' : Tfhd) (t' : Trun)
    (ho : optimize tfhd t = some (tfhd', t')) :
    readBack tfhd' trex t' = t.samples := by
  rw [optimize_readBack trex (fun _ => h.firstFlags) ho, readBack_fresh tfhd trex t h]

theorem optimizeN_fix (tfhd : Tfhd) (t : Trun) (h : optimize tfhd t = some (tfhd, t)) (n : Nat) :
    optimizeN n tfhd t = some (tfhd, t) := by
  induction n with
  | zero => rfl
  | succ n ih => simp [optimizeN, h, ih]

theorem optimizeN_eq_optimize (n : Nat) (tfhd : Tfhd) (t : Trun) : optimizeN (n + 1) tfhd t = optimize tfhd t := by
  simp only [optimizeN]
  cases h : optimize tfhd t with
  | none => rfl
  | some r =>
    obtain ⟨tfhd', t'⟩ := r
    exact optimizeN_fix tfhd' t' (optimize_idem tfhd t tfhd' t' h) n

theorem optimizeN_preserves (n : Nat) (tfhd : Tfhd) (trex : Trex) (t : Trun) (h : t.Fresh) (tfhd' : Tfhd) (t' : Trun)
    (ho : optimizeN n tfhd t = some (tfhd', t')) : readBack tfhd' trex t' = t.samples := by
  cases n with
  | zero => cases ho; exact readBack_fresh _ _ _ h
  | succ n =>
    rw [optimizeN_eq_optimize] at ho
    exact optimize_preserves tfhd trex t h tfhd' t' ho

theorem decodeTimes_spec (base : Nat) (ss : List Sample) (k : Nat) (hk : k < ss.length) :
    (decodeTimes base ss)[k]? = some (base + ((ss.take k).map (·.dur)).sum) := by
  induction ss generalizing base k with
  | nil => simp at hk
  | cons s ss ih =>
    cases k with
    | zero => simp [decodeTimes]
    | succ k =>
      simp [decodeTimes, ih _ _ (Nat.lt_of_succ_lt_succ hk), Nat.add_assoc]

/-- a run with its sample payloads (ghost data): sizes agree with payload lengths -/
def RunOK (r : List (Sample × Bytes)) : Prop := ∀ p ∈ r, p.1.size = p.2.length

def runData (r : List (Sample × Bytes)) : Bytes := r.flatMap (·.2)

theorem sampleBytes_run (r : List (Sample × Bytes)) (hr : RunOK r) (mdat post : Bytes) (off : Nat)
    (h : mdat.drop off = runData r ++ post) :
    sampleBytes mdat off (r.map (·.1)) = r.map (·.2) := by
  induction r generalizing off with
  | nil => rfl
  | cons p r ih =>
    obtain ⟨hp, hr'⟩ := List.forall_mem_cons.mp hr
    simp only [List.map_cons, sampleBytes]
    have h' : mdat.drop off = p.2 ++ (runData r ++ post) := by
      rw [h]; simp [runData]
    congr 1
    · rw [h', hp]; simp
    · apply ih hr'
      rw [← List.drop_drop, h', hp]; simp

theorem dataOffsets_getD (moofSize mdatHdr : Nat) (sizes : List Nat) (k : Nat) (hk : k < sizes.length) :
    (dataOffsets moofSize mdatHdr sizes).getD k 0 = moofSize + mdatHdr + (sizes.take k).sum := by
  induction sizes generalizing moofSize k with
  | nil => simp at hk
  | cons sz sizes ih =>
    cases k with
    | zero => simp [dataOffsets]
    | succ k =>
      simp only [dataOffsets, List.getD_cons_succ, ih _ _ (Nat.lt_of_succ_lt_succ hk), List.take_succ_cons, List.sum_cons]
      omega

theorem flatMap_drop_run (runs : List (List (Sample × Bytes))) (k : Nat) (hk : k < runs.length) :
    (runs.flatMap runData).drop (((runs.map fun r => (runData r).length).take k).sum)
      = runData (runs.getD k []) ++ (runs.drop (k + 1)).flatMap runData := by
  induction runs generalizing k with
  | nil => simp at hk
  | cons r runs ih =>
    cases k with
    | zero => simp
    | succ k =>
      simp only [List.map_cons, List.take_succ_cons, List.sum_cons, List.flatMap_cons, List.getD_cons_succ,
        List.drop_succ_cons]
      rw [← ih k (Nat.lt_of_succ_lt_succ hk), List.drop_append]
      simp

/-- the offsets of `SetTrunDataOffsets` count from the moof start and `sampleBytes` from the payload start, which lies
    `moofSize + mdatHdr` behind it: hence the subtraction -/
theorem dataOffsets_spec (moofSize mdatHdr : Nat) (runs : List (List (Sample × Bytes))) (hr : ∀ r ∈ runs, RunOK r)
    (k : Nat) (hk : k < runs.length) :
    let mdat := runs.flatMap runData
    let offs := dataOffsets moofSize mdatHdr (runs.map fun r => (runData r).length)
    sampleBytes mdat (offs.getD k 0 - (moofSize + mdatHdr)) ((runs.getD k []).map (·.1)) = (runs.getD k []).map (·.2) := by
  intro mdat offs
  have hmem : runs.getD k [] ∈ runs := by
    rw [List.getD_eq_getElem?_getD, List.getElem?_eq_getElem hk]; simp
  apply sampleBytes_run _ (hr _ hmem) mdat ((runs.drop (k + 1)).flatMap runData)
  have := dataOffsets_getD moofSize mdatHdr (runs.map fun r => (runData r).length) k (by simpa using hk)
  simp only [offs, this, Nat.add_sub_cancel_left]
  exact flatMap_drop_run runs k hk

end Mp4ff.Frag
