import Mp4ff.Model.Nalu
/-! `hasZeroByte` never misses a zero byte.  `x - 0x01…01` is `x + 0xFE…FE + 1` modulo 2^64: a chain of byte additions
with carries.  Whatever carry arrives from below, a zero byte becomes 0xFE or 0xFF, so its top bit is set in the sum
and clear in `x`; `magicRight` selects exactly the top bits. -/
namespace Mp4ff.Nalu

/-- `0xFE…FE`, `n` bytes -/
def feBytes : Nat → Nat
  | 0 => 0
  | n + 1 => feBytes n * 256 + 254

/-- Byte `k` of `x` is zero; `c` is the carry into the lowest byte (1 at the outside: the `+ 1` of the two's
    complement).  Induction on `k`: drop the lowest byte, the carry out of it is the carry into the rest. -/
theorem zero_lane_bit : ∀ (k n x c : Nat), k < n → c ≤ 1 → x / 256 ^ k % 256 = 0 →
    (x + feBytes n + c) / 2 ^ (8 * k + 7) % 2 = 1 ∧ x / 2 ^ (8 * k + 7) % 2 = 0
  | _, 0, _, _, hk, _, _ => nomatch hk
  | 0, n + 1, x, c, _, hc, hz => by
    -- `omega` is slow on the unevaluated powers
    rw [Nat.pow_zero, Nat.div_one] at hz
    show (x + feBytes (n + 1) + c) / 128 % 2 = 1 ∧ x / 128 % 2 = 0
    rw [feBytes]; omega
  | k + 1, n + 1, x, c, hk, hc, hz => by
    rw [Nat.pow_succ', ← Nat.div_div_eq_div_mul] at hz
    have ih := zero_lane_bit k n (x / 256) ((x % 256 + 254 + c) / 256) (Nat.lt_of_succ_lt_succ hk) (by omega) hz
    rw [feBytes, show 8 * (k + 1) + 7 = 8 + (8 * k + 7) by omega, Nat.pow_add, ← Nat.div_div_eq_div_mul,
      ← Nat.div_div_eq_div_mul]
    refine ⟨(congrArg (· / 2 ^ (8 * k + 7) % 2) ?_).trans ih.1, ih.2⟩
    omega

/-- whatever the word: every `BitVec 64` is an `ofNat` -/
theorem hasZeroByte_ofNat (v k : Nat) (hk : k < 8) (hz : v / 256 ^ k % 256 = 0) :
    hasZeroByte (BitVec.ofNat 64 v) = true := by
  obtain ⟨h1, h2⟩ := zero_lane_bit k 8 v 1 hk (Nat.le_refl 1) hz
  have hsub : BitVec.ofNat 64 v - magicLeft = BitVec.ofNat 64 (v + feBytes 8 + 1) := by
    rw [BitVec.sub_eq_add_neg, show -magicLeft = BitVec.ofNat 64 (feBytes 8 + 1) by decide, ← BitVec.ofNat_add,
      Nat.add_assoc]
  have hm : ∀ j < 8, magicRight.getLsbD (8 * j + 7) = true := by decide
  rw [hasZeroByte, bne_iff_ne, hsub]
  intro h
  have := congrArg (·.getLsbD (8 * k + 7)) h
  simp only [BitVec.getLsbD_and, BitVec.getLsbD_not, BitVec.getLsbD_ofNat, hm k hk,
    Nat.testBit_eq_decide_div_mod_eq, h1, h2, Nat.zero_div, Nat.zero_mod, show 8 * k + 7 < 64 by omega] at this
  simp at this

/-- value of a little-endian byte list -/
def leVal (l : List Nat) : Nat := l.foldr (fun a acc => acc * 256 + a) 0

theorem leVal_lane : ∀ (l : List Nat) (k : Nat), (∀ a ∈ l, a < 256) → leVal l / 256 ^ k % 256 = l.getD k 0
  | [], k, _ => by simp [leVal]
  | a :: t, 0, h => by
    have := h a (List.mem_cons_self ..)
    simp only [leVal, List.foldr_cons, Nat.pow_zero, Nat.div_one, List.getD_cons_zero]
    exact Nat.mul_add_mod_of_lt this
  | a :: t, k + 1, h => by
    have := h a (List.mem_cons_self ..)
    rw [Nat.pow_succ', ← Nat.div_div_eq_div_mul, List.getD_cons_succ,
      ← leVal_lane t k fun b hb => h b (List.mem_cons_of_mem _ hb)]
    congr 2
    simp only [leVal, List.foldr_cons]; omega

theorem byteAt_lt (s : Bytes) (hs : IsBytes s) (i : Nat) : byteAt s i < 256 := by
  unfold byteAt
  rw [List.getD_eq_getElem?_getD]
  cases h : s[i]? with
  | none => simp
  | some v => simp; exact hs v (List.mem_of_getElem? h)

theorem word_eq_ofNat_leVal (s : Bytes) (i : Nat) :
    word s i = BitVec.ofNat 64 (leVal ((List.range 8).map fun k => byteAt s (i + k))) := by
  rw [word, leVal, List.foldr_map]

theorem hasZeroByte_word (s : Bytes) (hs : IsBytes s) (i k : Nat) (hk : k < 8)
    (hz : byteAt s (i + k) = 0) : hasZeroByte (word s i) = true := by
  rw [word_eq_ofNat_leVal]
  refine hasZeroByte_ofNat _ k hk ?_
  rw [leVal_lane _ k fun a ha => by obtain ⟨k, _, rfl⟩ := List.mem_map.1 ha; exact byteAt_lt s hs _]
  simpa [hk] using hz
end Mp4ff.Nalu
