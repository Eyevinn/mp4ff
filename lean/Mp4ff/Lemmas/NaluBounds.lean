import Mp4ff.Lemmas.NaluWalk
/-!
C16: the length-prefixed NAL-unit walkers (checked cursor) on arbitrary bytes: what they return fits inside the input;
`toByteStream` keeps the length and needs no more fuel than the input is long (the other walkers: `walk_fuel`).
-/
namespace Mp4ff.Nalu

theorem patch4_length (s : Bytes) (pos : Nat) (v : Bytes) (hv : v.length = 4) (h : pos + 4 ≤ s.length) :
    (patch4 s pos v).length = s.length := by
  simp [patch4, hv]; omega

theorem toByteStream_fuel : ∀ (f g : Nat) (s : Bytes) (pos : Nat),
    s.length - pos + 1 ≤ f → s.length - pos + 1 ≤ g → toByteStream f s pos = toByteStream g s pos
  | 0, _, _, _, hf, _ => nomatch hf
  | _, 0, _, _, _, hg => nomatch hg
  | f + 1, g + 1, s, pos, hf, hg => by
    rw [toByteStream, toByteStream]
    by_cases hc : pos + 4 ≤ s.length
    · have hk : (patch4 s pos [0, 0, 0, 1]).length - (pos + 4 + be32 s pos) < s.length - pos := by
        rw [patch4_length s pos _ rfl hc]; exact remaining_lt _ hc
      simp only [if_pos hc]
      rw [toByteStream_fuel f g (patch4 s pos [0, 0, 0, 1]) (pos + 4 + be32 s pos)
        (Nat.le_trans hk (Nat.le_of_succ_le_succ hf)) (Nat.le_trans hk (Nat.le_of_succ_le_succ hg))]
    · rw [if_neg hc, if_neg hc]

theorem nalusFromSample_bounded (s : Bytes) (ns : List Bytes) (h : nalusFromSample s = some ns) :
    (ns.map List.length).sum + 4 * ns.length ≤ s.length ∧
    ∀ n ∈ ns, ∃ a, a + n.length ≤ s.length ∧ n = slice s a (a + n.length) := by
  rw [nalusFromSample] at h
  split at h
  · cases h
  rw [nalusFromSample_go_eq] at h
  refine walk_inv s nalusFromSampleStep some
    (fun pos acc => ((acc.map List.length).sum + 4 * acc.length ≤ pos ∧ pos ≤ s.length) ∧
      ∀ n ∈ acc, ∃ a, a + n.length ≤ s.length ∧ n = slice s a (a + n.length))
    (fun r => ∀ ns, r = some ns → ((ns.map List.length).sum + 4 * ns.length ≤ s.length) ∧
      ∀ n ∈ ns, ∃ a, a + n.length ≤ s.length ∧ n = slice s a (a + n.length))
    ?_ ?_ _ 0 [] ⟨⟨Nat.le_refl 0, Nat.zero_le _⟩, fun _ h => nomatch h⟩ ns h
  · rintro pos acc ⟨⟨h1, h2⟩, h3⟩ ns ⟨⟩
    exact ⟨by omega, h3⟩
  · rintro pos acc n _ (_ | _) u ⟨⟨h1, h2⟩, h3⟩ hg hu
    · obtain ⟨rfl, hle, hu⟩ := hu rfl
      refine ⟨?_, ?_⟩
      · simp only [List.map_append, List.sum_append, List.length_append, List.map_cons, List.map_nil,
          List.sum_cons, List.sum_nil, List.length_cons, List.length_nil]
        omega
      · intro n hn
        rcases List.mem_append.mp hn with hm | hm
        · exact h3 n hm
        · rw [List.mem_singleton] at hm
          exact ⟨pos + 4, hm ▸ hle, hm ▸ hu⟩
    · exact fun _ h => nomatch h

theorem naluTypes_bounded (c : Codec) (stop : Bool) (s : Bytes) : (naluTypes c stop s).length * 4 ≤ s.length := by
  rw [naluTypes_eq_walk]
  refine walk_inv s (naluTypesStep c stop) id (fun pos acc => acc.length * 4 ≤ pos ∧ pos ≤ s.length)
    (fun r => r.length * 4 ≤ s.length) (fun _ _ h => Nat.le_trans h.1 h.2) ?_ _ 0 [] (by simp)
  rintro pos acc n hdr over u ⟨h1, h2⟩ hg hu
  have hA : (acc ++ [c.typeOf hdr]).length * 4 ≤ pos + 4 := by
    simp only [List.length_append, List.length_singleton]; omega
  have hQ := Nat.le_trans hA (Nat.le_of_lt hg)
  rw [naluTypesStep]
  split
  · exact hQ
  · cases over
    · exact ⟨Nat.le_trans hA (Nat.le_add_right ..), (hu rfl).2.1⟩
    · exact hQ

theorem paramSets_bounded (c : Codec) (isPS : Nat → Bool) (s : Bytes) :
    ((paramSets c isPS s).map (·.2.length)).sum + 4 * (paramSets c isPS s).length ≤ s.length := by
  rw [paramSets, paramSets_go_eq]
  refine walk_inv s (paramSetsStep c isPS) id
    (fun pos acc => (acc.map (·.2.length)).sum + 4 * acc.length ≤ pos ∧ pos ≤ s.length)
    (fun r => (r.map (·.2.length)).sum + 4 * r.length ≤ s.length) (fun _ _ h => Nat.le_trans h.1 h.2) ?_ _ 0 []
    (by simp)
  rintro pos acc n hdr (_ | _) u ⟨h1, h2⟩ hg hu
  · obtain ⟨rfl, hle, _⟩ := hu rfl
    rw [paramSetsStep, if_neg Bool.false_ne_true]
    cases isPS (c.typeOf hdr)
    · cases c.isVideo (c.typeOf hdr)
      · exact ⟨Nat.le_add_right_of_le (Nat.le_add_right_of_le h1), hle⟩
      · exact Nat.le_trans h1 h2
    · simp only [if_true, Sum.elim_inr, List.map_append, List.sum_append, List.length_append, List.map_cons,
        List.map_nil, List.sum_cons, List.sum_nil, List.length_cons, List.length_nil]
      omega
  · exact Nat.le_trans h1 h2

theorem toByteStream_length (fuel : Nat) (s : Bytes) (pos : Nat) : (toByteStream fuel s pos).length = s.length := by
  induction fuel generalizing s pos with
  | zero => rfl
  | succ f ih =>
    rw [toByteStream]
    by_cases hc : pos + 4 ≤ s.length
    · simp only [hc, if_true]
      have hl := patch4_length s pos [0, 0, 0, 1] rfl hc
      split
      · exact hl
      · rw [ih, hl]
    · simp only [hc, if_false]

end Mp4ff.Nalu
