import Mp4ff.Model.Crop
/-!
C10, the new mdat: merging of adjacent byte ranges and the interleaving layout of the kept chunks.
-/
namespace Mp4ff.Crop

theorem copied_cons (file : Bytes) (c : KChunk) (rest : List KChunk) :
    copied file (c :: rest) = (file.drop c.off).take c.size ++ copied file rest := by
  simp [copied]

theorem copied_nil (file : Bytes) : copied file [] = [] := rfl

theorem copied_append (file : Bytes) (a b : List KChunk) :
    copied file (a ++ b) = copied file a ++ copied file b := by
  simp [copied]

theorem mergeRanges_copied (file : Bytes) (pieces : List KChunk) (h : ∀ c ∈ pieces, c.off + c.size ≤ file.length) :
    copied file (mergeRanges pieces) = copied file pieces := by
  clear h
  induction pieces with
  | nil => rfl
  | cons c rest ih =>
    unfold mergeRanges
    split
    · rename_i hm
      rw [hm] at ih
      rw [copied_cons, copied_cons, ← ih]
    · rename_i d ds hm
      rw [hm] at ih
      split
      · rename_i he
        rw [copied_cons, copied_cons file c, ← ih, copied_cons, ← he]
        simp only []
        rw [List.take_add, List.drop_drop, List.append_assoc]
      · rw [copied_cons, copied_cons file c, ← ih]

theorem pickMin_go_cons (c : KChunk) (rest : List KChunk) (l : List (List KChunk)) (i : Nat) (best : Option (Nat × Nat)) :
    ∃ best', pickMin.go ((c :: rest) :: l) i best = pickMin.go l (i + 1) best' ∧
      (best' = best ∨ best' = some (i, c.off)) ∧ (best' = none → best = none ∧ 2 ^ 62 ≤ c.off) := by
  cases best with
  | none =>
    by_cases hc : c.off < 2 ^ 62
    · exact ⟨some (i, c.off), by simp only [pickMin.go, if_pos hc], Or.inr rfl, fun h => nomatch h⟩
    · exact ⟨none, by simp only [pickMin.go, if_neg hc], Or.inl rfl, fun _ => ⟨rfl, by omega⟩⟩
  | some b =>
    obtain ⟨bi, bo⟩ := b
    by_cases hc : c.off < bo
    · exact ⟨some (i, c.off), by simp only [pickMin.go, if_pos hc], Or.inr rfl, fun h => nomatch h⟩
    · exact ⟨some (bi, bo), by simp only [pickMin.go, if_neg hc], Or.inl rfl, fun h => nomatch h⟩

/-- The scan returns the running best it started with or the head of some track; it returns `none` only when it started
    with `none` and every head lies at or above the 2^62 sentinel. -/
theorem pickMin_go_spec (l : List (List KChunk)) : ∀ (i : Nat) (best : Option (Nat × Nat)),
    (pickMin.go l i best = best ∧ (best = none → ∀ t ∈ l, ∀ c ∈ t.head?, 2 ^ 62 ≤ c.off)) ∨
    ∃ j c rest, l[j]? = some (c :: rest) ∧ pickMin.go l i best = some (i + j, c.off) := by
  induction l with
  | nil => intro i best; exact Or.inl ⟨rfl, fun _ _ h => nomatch h⟩
  | cons t l ih =>
    intro i best
    have lift : ∀ {x}, (∃ j c rest, l[j]? = some (c :: rest) ∧ x = some (i + 1 + j, c.off)) →
        ∃ j c rest, (t :: l)[j]? = some (c :: rest) ∧ x = some (i + j, c.off) :=
      fun ⟨j, c, rest, h1, h2⟩ => ⟨j + 1, c, rest, h1, by rw [h2, Nat.add_right_comm, Nat.add_assoc]⟩
    cases t with
    | nil =>
      show _ ∨ ∃ j c rest, _ ∧ pickMin.go l (i + 1) best = _
      exact (ih (i + 1) best).imp
        (fun ⟨e, hn⟩ => ⟨e, fun hb => List.forall_mem_cons.2 ⟨fun c hc => (nomatch hc), hn hb⟩⟩) lift
    | cons c rest =>
      obtain ⟨best', e, hb, hn'⟩ := pickMin_go_cons c rest l i best
      rw [e]
      rcases ih (i + 1) best' with ⟨e', hn⟩ | h'
      · rcases hb with rfl | rfl
        · exact Or.inl ⟨e', fun hb => List.forall_mem_cons.2 ⟨fun c' hc' => Option.some.inj hc' ▸ (hn' hb).2, hn hb⟩⟩
        · exact Or.inr ⟨0, c, rest, rfl, e'⟩
      · exact Or.inr (lift h')

theorem pickMin_some (p : Pending) (i : Nat) (h : pickMin p = some i) : ∃ c rest, p[i]? = some (c :: rest) := by
  unfold pickMin at h
  rcases pickMin_go_spec p 0 none with ⟨e, _⟩ | ⟨j, c, rest, h1, h2⟩
  · rw [e] at h; cases h
  · rw [h2, Nat.zero_add] at h
    exact ⟨c, rest, Option.some.inj h ▸ h1⟩

theorem pickMin_none (p : Pending) (h : pickMin p = none) (hoff : ∀ t ∈ p, ∀ c ∈ t, c.off < 2 ^ 62) :
    ∀ t ∈ p, t = [] := by
  unfold pickMin at h
  rcases pickMin_go_spec p 0 none with ⟨_, hn⟩ | ⟨j, c, rest, _, h2⟩
  · intro t ht
    cases t with
    | nil => rfl
    | cons c rest => exact absurd (hoff _ ht c (by simp)) (Nat.not_lt_of_le (hn rfl _ ht c rfl))
  · rw [h2] at h; cases h

theorem sum_set_tail (p : Pending) (i : Nat) (c : KChunk) (rest : List KChunk) (h : p[i]? = some (c :: rest)) :
    (p.map List.length).sum = ((p.set i rest).map List.length).sum + 1 ∧
    ((p.flatten).map (·.size)).sum = (((p.set i rest).flatten).map (·.size)).sum + c.size := by
  obtain ⟨hi, hx⟩ := List.getElem?_eq_some_iff.1 h
  have e1 : p = p.take i ++ (c :: rest) :: p.drop (i + 1) := by simp [← hx]
  rw [List.set_eq_take_append_cons_drop, if_pos hi]; conv => enter [1, 1]; rw [e1]
  conv => enter [2, 1]; rw [e1]
  simp only [List.map_append, List.map_cons, List.sum_append, List.sum_cons, List.length_cons, List.flatten_append,
    List.flatten_cons]
  omega

theorem getD_set_eq {α} (l : List α) (i : Nat) (x d : α) (h : i < l.length) : (l.set i x).getD i d = x := by
  simp [List.getD_eq_getElem?_getD, h]

theorem getD_set_ne {α} (l : List α) (i k : Nat) (x d : α) (h : i ≠ k) : (l.set i x).getD k d = l.getD k d := by
  simp [List.getD_eq_getElem?_getD, h]

theorem piece_length (file : Bytes) (c : KChunk) (hc : c.off + c.size ≤ file.length) :
    ((file.drop c.off).take c.size).length = c.size := by
  rw [List.length_take, List.length_drop]; omega

/-- the new chunk offset `o` (the payload `Y` starts at `base`) points at the bytes of chunk `c` -/
def Placed (file Y : Bytes) (base o : Nat) (c : KChunk) : Prop :=
  base ≤ o ∧ (Y.drop (o - base)).take c.size = (file.drop c.off).take c.size

/-- all pending chunks lie inside the file and below the 2^62 sentinel -/
def InFile (file : Bytes) (p : Pending) : Prop := ∀ t ∈ p, ∀ c ∈ t, c.off + c.size ≤ file.length ∧ c.off < 2 ^ 62

/-- the chunk written first lies at the start of the payload -/
theorem Placed.head (file : Bytes) (c : KChunk) (ext : List KChunk) (cur : Nat) (hc : c.off + c.size ≤ file.length) :
    Placed file (copied file (c :: ext)) cur cur c := by
  refine ⟨Nat.le_refl _, ?_⟩
  rw [copied_cons, Nat.sub_self, List.drop_zero, List.take_left' (piece_length file c hc)]

/-- what is placed after `c` sits `c.size` bytes further on -/
theorem Placed.behind {file : Bytes} {c k : KChunk} {ext : List KChunk} {cur o : Nat}
    (hc : c.off + c.size ≤ file.length) (h : Placed file (copied file ext) (cur + c.size) o k) :
    Placed file (copied file (c :: ext)) cur o k := by
  have hP := piece_length file c hc
  refine ⟨Nat.le_trans (Nat.le_add_right _ _) h.1, ?_⟩
  rw [copied_cons, List.drop_append, List.drop_eq_nil_of_le (by rw [hP]; exact Nat.le_sub_of_add_le' h.1),
    List.nil_append, hP, Nat.sub_sub]
  exact h.2

/-- `outs'` extends `outs`, track by track, by the new offsets of the pending chunks `p`: one per chunk and in order,
    each pointing at the bytes of its chunk in the payload `Y` that starts at `base` -/
structure Extends (file Y : Bytes) (base : Nat) (p : Pending) (outs outs' : List (List Nat)) : Prop where
  length : outs'.length = p.length
  track : ∀ i, i < p.length → ∃ new, outs'.getD i [] = outs.getD i [] ++ new ∧ new.length = (p.getD i []).length ∧
    ∀ j, j < new.length → Placed file Y base (new.getD j 0) ((p.getD i []).getD j ⟨0, 0⟩)

/-- one round of `layout`: chunk `c`, the head of track `i0`, is written at `cur` and the rest behind it -/
theorem Extends.step {file : Bytes} {p : Pending} {i0 cur : Nat} {c : KChunk} {rest ext : List KChunk}
    {outs outs' : List (List Nat)} (hget : p.getD i0 [] = c :: rest) (hc : c.off + c.size ≤ file.length)
    (hlen : outs.length = p.length)
    (h : Extends file (copied file ext) (cur + c.size) (p.set i0 rest) (outs.set i0 (outs.getD i0 [] ++ [cur])) outs') :
    Extends file (copied file (c :: ext)) cur p outs outs' where
  length := by rw [h.length, List.length_set]
  track i hi := by
    obtain ⟨new, n1, n2, n3⟩ := h.track i (by rwa [List.length_set])
    by_cases hii : i = i0
    · subst hii
      rw [getD_set_eq _ _ _ _ (hlen ▸ hi)] at n1
      rw [getD_set_eq _ _ _ _ hi] at n2 n3
      refine ⟨cur :: new, by rw [n1]; simp, by rw [hget]; simp [n2], fun j hj => ?_⟩
      rw [hget]
      cases j with
      | zero => exact .head file c ext cur hc
      | succ j => exact (n3 j (by simpa using hj)).behind hc
    · rw [getD_set_ne _ _ _ _ _ (Ne.symm hii)] at n1 n2 n3
      exact ⟨new, n1, n2, fun j hj => (n3 j hj).behind hc⟩

/-- `layout` entered with write position `cur`, the offsets `outs` given out so far (one list per track) and the
    `pieces` written so far: it writes every pending chunk once.  A round peels the chunk `pickMin` chose; everything
    placed in later rounds sits `c.size` further on (`Extends.step`). -/
theorem layout_spec (file : Bytes) : ∀ (fuel : Nat) (p : Pending) (cur : Nat) (outs : List (List Nat)) (pieces : List KChunk),
    InFile file p → (p.map List.length).sum < fuel → outs.length = p.length →
    ∃ ext outs', layout fuel p cur outs pieces = (outs', pieces ++ ext) ∧
      (copied file ext).length = ((p.flatten).map (·.size)).sum ∧ Extends file (copied file ext) cur p outs outs' := by
  intro fuel
  induction fuel with
  | zero => intro p cur outs pieces _ h; exact absurd h (Nat.not_lt_zero _)
  | succ fuel ih =>
    intro p cur outs pieces hin hfuel hlen
    unfold layout
    cases hpm : pickMin p with
    | none =>
      have hall := pickMin_none p hpm (fun t ht c hc => (hin t ht c hc).2)
      refine ⟨[], outs, by simp, by rw [List.flatten_eq_nil_iff.2 hall]; rfl, hlen, fun i hi => ?_⟩
      have : p.getD i [] = [] := by
        rw [List.getD_eq_getElem?_getD, List.getElem?_eq_getElem hi]
        exact hall _ (List.getElem_mem hi)
      exact ⟨[], by simp, by rw [this]; rfl, fun j hj => absurd hj (Nat.not_lt_zero j)⟩
    | some i0 =>
      obtain ⟨c, rest, hget⟩ := pickMin_some p i0 hpm
      have hgetD : p.getD i0 [] = c :: rest := by
        rw [List.getD_eq_getElem?_getD, hget]; rfl
      simp only [hgetD]
      have hmem : c :: rest ∈ p := List.mem_of_getElem? hget
      have hcin := (hin _ hmem c (by simp)).1
      have hin' : InFile file (p.set i0 rest) := by
        intro t ht c' hc'
        rcases List.mem_or_eq_of_mem_set ht with ht | rfl
        · exact hin t ht c' hc'
        · exact hin _ hmem c' (List.mem_cons_of_mem _ hc')
      obtain ⟨htot, hbytes⟩ := sum_set_tail p i0 c rest hget
      rw [htot] at hfuel
      obtain ⟨ext', outs', e1, e2, e3⟩ := ih (p.set i0 rest) (cur + c.size)
        (outs.set i0 (outs.getD i0 [] ++ [cur])) (pieces ++ [c]) hin' (Nat.lt_of_succ_lt_succ hfuel) (by simp [hlen])
      refine ⟨c :: ext', outs', by rw [e1]; simp, ?_, e3.step hgetD hcin hlen⟩
      rw [copied_cons, List.length_append, piece_length file c hcin, e2, hbytes, Nat.add_comm]

theorem place_spec (file : Bytes) (p : Pending) (h : InFile file p) (start : Nat) :
    let r := place p start
    (copied file r.2).length = ((p.flatten).map (·.size)).sum ∧
    r.1.length = p.length ∧
    ∀ i, i < p.length → (r.1.getD i []).length = (p.getD i []).length ∧
      ∀ j, j < (p.getD i []).length →
        let c := (p.getD i []).getD j ⟨0, 0⟩
        start ≤ (r.1.getD i []).getD j 0 ∧
        ((copied file r.2).drop ((r.1.getD i []).getD j 0 - start)).take c.size = (file.drop c.off).take c.size := by
  intro r
  obtain ⟨ext, outs', e1, e2, e3⟩ := layout_spec file ((p.map List.length).sum + 1) p start
    (p.map fun _ => []) [] h (by omega) (by simp)
  have hr : r = (outs', ext) := by
    show place p start = _
    unfold place; rw [e1]; rfl
  rw [hr]
  refine ⟨e2, e3.length, fun i hi => ?_⟩
  obtain ⟨new, n1, n2, n3⟩ := e3.track i hi
  have hnil : (p.map fun _ => ([] : List Nat)).getD i [] = [] := by
    simp [List.getD_eq_getElem?_getD, hi]
  rw [hnil, List.nil_append] at n1
  simp only [n1]
  exact ⟨n2, fun j hj => n3 j (by omega)⟩

end Mp4ff.Crop
