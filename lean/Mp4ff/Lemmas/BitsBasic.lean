import Mp4ff.Model.BitSpec
import Mp4ff.Lemmas.Bytes
/-!
`lowBits`, `bitsOfBytes`, `fieldBits` of `Model/BitSpec.lean` in terms of `testBit`, shifts and masks: the low bits of a
number are its `testBit`s (`lowBits_congr`, `eq_of_lowBits_eq`), shifting a field into an accumulator concatenates bit
strings (`shl_or_bits`), bytes are determined by their bits (`bitsOfBytes_inj`). The files above speak of bit lists only.
-/
namespace Mp4ff.Bits

@[simp] theorem lowBits_length (n v : Nat) : (lowBits n v).length = n := by
  induction n with
  | zero => rfl
  | succ n ih => simp [lowBits, ih]

theorem lowBits_congr {n a b : Nat} (h : ∀ i, i < n → a.testBit i = b.testBit i) :
    lowBits n a = lowBits n b := by
  induction n with
  | zero => rfl
  | succ n ih =>
    simp only [lowBits]
    rw [h n (by omega), ih (fun i hi => h i (by omega))]

theorem testBit_of_lowBits_eq {n a b : Nat} (h : lowBits n a = lowBits n b) :
    ∀ i, i < n → a.testBit i = b.testBit i := by
  induction n with
  | zero => intro i hi; omega
  | succ n ih =>
    simp only [lowBits, List.cons.injEq] at h
    intro i hi
    by_cases hin : i = n
    · subst hin; exact h.1
    · exact ih h.2 i (by omega)

theorem lowBits_append (a b v : Nat) :
    lowBits (a + b) v = lowBits a (v >>> b) ++ lowBits b v := by
  induction a with
  | zero => simp [lowBits]
  | succ a ih =>
    have : a + 1 + b = (a + b) + 1 := by omega
    rw [this]
    simp only [lowBits, List.cons_append, Nat.testBit_shiftRight]
    rw [ih, Nat.add_comm b a]

theorem bitsOfBytes_append (a b : Bytes) : bitsOfBytes (a ++ b) = bitsOfBytes a ++ bitsOfBytes b := by
  induction a with
  | nil => rfl
  | cons x xs ih => simp [bitsOfBytes, ih]

@[simp] theorem bitsOfBytes_length (a : Bytes) : (bitsOfBytes a).length = 8 * a.length := by
  induction a with
  | nil => rfl
  | cons x xs ih => simp [bitsOfBytes, ih]; omega

theorem testBit_mask (n i : Nat) : (mask n).testBit i = decide (i < n) := by
  unfold mask; exact Nat.testBit_two_pow_sub_one n i

theorem lowBits_and_mask {n m v : Nat} (h : n ≤ m) : lowBits n (v &&& mask m) = lowBits n v := by
  apply lowBits_congr
  intro i hi
  rw [Nat.testBit_and, testBit_mask]
  have : i < m := by omega
  simp [this]

theorem eq_of_lowBits_eq {k a b : Nat} (ha : a < 2 ^ k) (hb : b < 2 ^ k)
    (h : lowBits k a = lowBits k b) : a = b := by
  apply Nat.eq_of_testBit_eq
  intro i
  by_cases hi : i < k
  · exact testBit_of_lowBits_eq h i hi
  · have hk : 2 ^ k ≤ 2 ^ i := Nat.pow_le_pow_right (by decide) (by omega)
    rw [Nat.testBit_lt_two_pow (by omega), Nat.testBit_lt_two_pow (by omega)]

theorem and_mask_lt (v n : Nat) : v &&& mask n < 2 ^ n := by
  unfold mask
  rw [Nat.and_two_pow_sub_one_eq_mod]
  exact Nat.mod_lt _ (Nat.two_pow_pos n)

theorem lowBits_zero_right (m : Nat) : lowBits m 0 = List.replicate m false := by
  induction m with
  | zero => rfl
  | succ m ih => simp [lowBits, ih, List.replicate_succ]

theorem lowBits_one (p : Nat) : lowBits (p + 1) 1 = List.replicate p false ++ [true] := by
  rw [lowBits_append, show 1 >>> 1 = 0 from rfl, lowBits_zero_right]
  rfl

theorem shl_lt {v n k : Nat} (hv : v < 2 ^ n) : v <<< k < 2 ^ (n + k) := by
  rw [Nat.shiftLeft_eq, Nat.pow_add]
  exact Nat.mul_lt_mul_of_pos_right hv (Nat.two_pow_pos k)

/-- Go's 64-bit `v << k` loses nothing while the accumulator holds at most `64 - k` bits -/
theorem shl_mod_W64 {v n k : Nat} (hv : v < 2 ^ n) (h : n + k ≤ 64) : (v <<< k) % W64 = v <<< k :=
  Nat.mod_eq_of_lt (Nat.lt_of_lt_of_le (shl_lt hv) (Nat.pow_le_pow_right (by decide) h))

theorem shl_or_bits {n v k b : Nat} (hb : b < 2 ^ k) :
    lowBits (n + k) ((v <<< k) ||| b) = lowBits n v ++ lowBits k b := by
  rw [lowBits_append]
  congr 1
  · apply lowBits_congr
    intro i _
    rw [Nat.testBit_shiftRight, Nat.testBit_or, Nat.testBit_shiftLeft]
    have h1 : k + i ≥ k := by omega
    have h2 : b.testBit (k + i) = false :=
      Nat.testBit_lt_two_pow (Nat.lt_of_lt_of_le hb (Nat.pow_le_pow_right (by decide) (by omega)))
    simp [h1, h2]
  · apply lowBits_congr
    intro i hi
    rw [Nat.testBit_or, Nat.testBit_shiftLeft]
    have h1 : ¬ (i ≥ k) := by omega
    simp [h1]

theorem fieldBits_append (a b : List (Nat × Nat)) : fieldBits (a ++ b) = fieldBits a ++ fieldBits b := by
  induction a with
  | nil => rfl
  | cons kv rest ih => obtain ⟨k, v⟩ := kv; simp [fieldBits, ih]

theorem fieldBits_length (l : List (Nat × Nat)) : (fieldBits l).length = (l.map (·.1)).sum := by
  induction l with
  | nil => rfl
  | cons kv l ih => obtain ⟨k, v⟩ := kv; simp [fieldBits, ih]

theorem fieldBits_flatMap_length {α : Type} {f : α → List (Nat × Nat)} {width : α → Nat}
    (h : ∀ c, ((f c).map (·.1)).sum = width c) (cs : List α) :
    (fieldBits (cs.flatMap f)).length = (cs.map width).sum := by
  induction cs with
  | nil => rfl
  | cons c cs ih => simp [List.flatMap_cons, fieldBits_append, fieldBits_length, h, ih]

theorem bitsOfBytes_take (n : Nat) (l : Bytes) : bitsOfBytes (l.take n) = (bitsOfBytes l).take (8 * n) := by
  induction l generalizing n with
  | nil => simp [bitsOfBytes]
  | cons b l ih =>
    cases n with
    | zero => simp [bitsOfBytes]
    | succ n =>
      simp only [List.take_succ_cons, bitsOfBytes, ih]
      have : 8 * (n + 1) = (lowBits 8 b).length + 8 * n := by simp; omega
      rw [this, List.take_length_add_append]

theorem IsBytes.append {a b : Bytes} (ha : IsBytes a) (hb : IsBytes b) : IsBytes (a ++ b) := Mp4ff.IsBytes.append ha hb

theorem IsBytes.of_append_right {a b : Bytes} (h : IsBytes (a ++ b)) : IsBytes b := Mp4ff.IsBytes.of_append_right h

theorem IsBytes.of_append_left {a b : Bytes} (h : IsBytes (a ++ b)) : IsBytes a := Mp4ff.IsBytes.of_append_left h

theorem bitsOfBytes_eq_cons {l : Bytes} {b : Nat} {rest : List Bool} (hl : IsBytes l) (hb : b < 256)
    (h : bitsOfBytes l = lowBits 8 b ++ rest) : ∃ l', l = b :: l' ∧ bitsOfBytes l' = rest := by
  cases l with
  | nil => have := congrArg List.length h; simp [bitsOfBytes] at this; omega
  | cons x xs =>
    have h2 := List.append_inj h (by simp)
    exact ⟨xs, by rw [eq_of_lowBits_eq (k := 8) (hl x (by simp)) hb h2.1], h2.2⟩

theorem bitsOfBytes_inj {a b : Bytes} (ha : IsBytes a) (hb : IsBytes b) (h : bitsOfBytes a = bitsOfBytes b) : a = b := by
  induction b generalizing a with
  | nil =>
    cases a with
    | nil => rfl
    | cons x xs => have := congrArg List.length h; simp [bitsOfBytes] at this
  | cons y ys ih =>
    obtain ⟨a', rfl, h'⟩ := bitsOfBytes_eq_cons ha (hb y (by simp)) h
    rw [ih ha.tail hb.tail h']

end Mp4ff.Bits
