import Mp4ff.Lemmas.BitsBasic
/-!
The plain bit writer (`bits.Writer`, `FixedSliceWriter.WriteBits`) through `BW.abs`, the bits of the bytes handed out
followed by the bits pending: `Write` appends the field's bits (`BW.write_spec`; widths up to 56, so that the 64-bit
accumulator, which holds fewer than 8 bits between calls, loses nothing), `Flush` pads with zeros to a byte
(`BW.flush_spec`). `BW.writeFields_spec` is what the round trips use.
-/
namespace Mp4ff.Bits

theorem BW.Inv.bytes {w : BW} (h : w.Inv) : IsBytes w.out := h.2.2

theorem BW.drain_spec (v : Nat) : ∀ (n : Nat) (out : Bytes),
    ∃ bs, BW.drain v n out = (n % 8, out ++ bs) ∧ IsBytes bs ∧
      bitsOfBytes bs ++ lowBits (n % 8) v = lowBits n v := by
  intro n
  induction n using Nat.strongRecOn with
  | _ n ih =>
    intro out
    unfold BW.drain
    by_cases h : n ≥ 8
    · simp only [h, dite_true]
      obtain ⟨bs, h1, h2, h3⟩ := ih (n - 8) (by omega) (out ++ [(v >>> (n - 8)) &&& mask 8])
      refine ⟨((v >>> (n - 8)) &&& mask 8) :: bs, ?_, ?_, ?_⟩
      · rw [h1, ← Nat.mod_eq_sub_mod h]; simp
      · exact List.forall_mem_cons.2 ⟨and_mask_lt _ 8, h2⟩
      · rw [Nat.mod_eq_sub_mod h, bitsOfBytes, List.append_assoc, h3, lowBits_and_mask (Nat.le_refl 8),
          ← lowBits_append, Nat.add_sub_cancel' h]
    · have hn : n % 8 = n := Nat.mod_eq_of_lt (by omega)
      simp only [h, dite_false, hn]
      exact ⟨[], by simp, by intro b hb; simp at hb, rfl⟩

/-- the accumulator update `v<<=k; v |= bits & Mask(k)` appends the field's bits -/
theorem acc_update {n v k bits : Nat} (hv : v < 256) (hk : k ≤ 56) :
    lowBits (n + k) (((v <<< k) % W64) ||| (bits &&& mask k)) = lowBits n v ++ lowBits k bits := by
  rw [shl_mod_W64 (n := 8) hv (by omega), shl_or_bits (and_mask_lt bits k), lowBits_and_mask (Nat.le_refl k)]

theorem BW.write_spec (w : BW) (bits k : Nat) (hw : w.Inv) (hk : k ≤ 56) :
    (w.write bits k).Inv ∧ (w.write bits k).abs = w.abs ++ lowBits k bits := by
  obtain ⟨hn, hv, ho⟩ := hw
  unfold BW.write
  obtain ⟨bs, hd, hb, hbits⟩ := BW.drain_spec (((w.v <<< k) % W64) ||| (bits &&& mask k)) (w.n + k) w.out
  simp only [hd]
  refine ⟨⟨Nat.mod_lt _ (by decide), and_mask_lt _ 8, ?_⟩, ?_⟩
  · exact ho.append hb
  · simp only [BW.abs, bitsOfBytes_append, List.append_assoc]
    rw [lowBits_and_mask (by have := Nat.mod_lt (w.n + k) (show 8 > 0 by decide); omega), hbits,
      acc_update hv hk]

theorem BW.init_inv : ({} : BW).Inv := ⟨by decide, by decide, fun _ h => nomatch h⟩

theorem BW.writeAll_spec (ops : List (Nat × Nat)) : ∀ (w : BW), w.Inv → (∀ kv ∈ ops, kv.1 ≤ 56) →
    (w.writeAll ops).Inv ∧ (w.writeAll ops).abs = w.abs ++ fieldBits ops := by
  induction ops with
  | nil => intro w hw _; simp [BW.writeAll, fieldBits, hw]
  | cons kv rest ih =>
    intro w hw hk
    obtain ⟨k, v⟩ := kv
    have h1 := BW.write_spec w v k hw (hk (k, v) (by simp))
    have h2 := ih (w.write v k) h1.1 (fun kv h => hk kv (by simp [h]))
    simp only [BW.writeAll, fieldBits]
    refine ⟨h2.1, ?_⟩
    rw [h2.2, h1.2, List.append_assoc]

theorem BW.write_n (w : BW) (bits k : Nat) : (w.write bits k).n = (w.n + k) % 8 := by
  unfold BW.write
  obtain ⟨bs, hd, _, _⟩ := BW.drain_spec (((w.v <<< k) % W64) ||| (bits &&& mask k)) (w.n + k) w.out
  simp only [hd]

theorem BW.flush_eq_write (w : BW) (h0 : w.n ≠ 0) (hn : w.n < 8) : w.flush = (w.write 0 (8 - w.n)).out := by
  have h8 : w.n + (8 - w.n) = 8 := by omega
  unfold BW.flush BW.write
  rw [if_pos h0, h8]
  unfold BW.drain
  simp [BW.drain]

theorem BW.flush_spec (w : BW) (hw : w.Inv) :
    bitsOfBytes w.flush = w.abs ++ List.replicate ((8 - w.n) % 8) false ∧ IsBytes w.flush := by
  by_cases h0 : w.n = 0
  · simp [BW.flush, h0, BW.abs, lowBits, hw.bytes]
  · have hn := hw.1
    have hs := BW.write_spec w 0 (8 - w.n) hw (by omega)
    have hn' : (w.write 0 (8 - w.n)).n = 0 := by rw [BW.write_n, show w.n + (8 - w.n) = 8 by omega]
    rw [BW.flush_eq_write w h0 hn, Nat.mod_eq_of_lt (by omega), ← lowBits_zero_right, ← hs.2, BW.abs, hn']
    exact ⟨(List.append_nil _).symm, hs.1.bytes⟩

theorem BW.writeAll_append (a b : List (Nat × Nat)) : ∀ w : BW, w.writeAll (a ++ b) = (w.writeAll a).writeAll b := by
  induction a with
  | nil => intro w; rfl
  | cons kv rest ih => intro w; exact ih _

theorem BW.foldl_writeAll {α : Type} (f : α → List (Nat × Nat)) (cs : List α) : ∀ w : BW,
    cs.foldl (fun w c => w.writeAll (f c)) w = w.writeAll (cs.flatMap f) := by
  induction cs with
  | nil => intro w; rfl
  | cons c cs ih => intro w; rw [List.foldl_cons, ih, List.flatMap_cons, BW.writeAll_append]

theorem BW.writeFields_spec (ops : List (Nat × Nat)) (h : ∀ kv ∈ ops, kv.1 ≤ 56) :
    IsBytes (BW.writeFields ops) ∧
    ∃ pad, pad < 8 ∧ bitsOfBytes (BW.writeFields ops) = fieldBits ops ++ List.replicate pad false := by
  have hw := BW.writeAll_spec ops {} BW.init_inv h
  have hf := BW.flush_spec _ hw.1
  refine ⟨hf.2, (8 - (({} : BW).writeAll ops).n) % 8, Nat.mod_lt _ (by decide), ?_⟩
  rw [BW.writeFields, hf.1, hw.2]
  rfl

theorem BW.writeFields_length (ops : List (Nat × Nat)) (h : ∀ kv ∈ ops, kv.1 ≤ 56) :
    (BW.writeFields ops).length = ((ops.map (·.1)).sum + 7) / 8 := by
  obtain ⟨_, pad, hpad, hbits⟩ := BW.writeFields_spec ops h
  have := congrArg List.length hbits
  simp only [bitsOfBytes_length, List.length_append, fieldBits_length, List.length_replicate] at this
  omega

end Mp4ff.Bits
