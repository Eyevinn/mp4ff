import Mp4ff.Model.Protect
/-!
The init segment.  `InitProtect` renames the one sample entry, appends a sinf to it (`protectEntry_eq`) and appends pssh
boxes to the moov; `DecryptInit` undoes this.  For an entry without a sinf (`noSinf`) that is `unprotect_protect`, for a moov
with one trak `decryptTraks_one`; the `_append_pssh` lemmas deal with the appended pssh boxes (`noPsshMoov`: none before).
-/
namespace Mp4ff.Protect

/-- no sinf among the children of a (clear) sample entry -/
def noSinf : List EntryChild → Bool
  | [] => true
  | .sinf _ :: _ => false
  | _ :: rest => noSinf rest

theorem lastSinf_append (l : List EntryChild) (s : Sinf) : lastSinf (l ++ [.sinf s]) = some s := by
  induction l with
  | nil => simp [lastSinf]
  | cons c l ih => simp [lastSinf, ih]

theorem dropFirstSinf_append (l : List EntryChild) (s : Sinf) (h : noSinf l = true) :
    dropFirstSinf (l ++ [.sinf s]) = l := by
  fun_induction noSinf l <;> simp_all [dropFirstSinf]

theorem schemeSinf_fields (sc : Scheme) (k : String) :
    (schemeSinf sc k).frma = k ∧ (schemeSinf sc k).scheme = sc.name ∧ (schemeSinf sc k).ivSize = sc.ivLen := by
  cases sc <;> exact ⟨rfl, rfl, rfl⟩
theorem schemeSinf_size (sc : Scheme) (k : String) :
    (schemeSinf sc k).size = match sc with | .cenc => 80 | .cbcs => 97 := by cases sc <;> rfl

theorem protectEntry_eq {sc : Scheme} {e e' : SampleEntry} (h : protectEntry sc e = some e') :
    ∃ k, ((e.cls = .visual ∧ k = "encv") ∨ (e.cls = .audio ∧ k = "enca")) ∧
      e' = { e with kind := k, children := e.children ++ [.sinf (schemeSinf sc e.kind)] } := by
  unfold protectEntry at h
  split at h
  · split at h
    · exact ⟨"encv", .inl ⟨‹_›, rfl⟩, (Option.some.inj h).symm⟩
    · cases h
  · exact ⟨"enca", .inr ⟨‹_›, rfl⟩, (Option.some.inj h).symm⟩
  · cases h

theorem unprotect_protect {sc : Scheme} {e e' : SampleEntry} (hn : noSinf e.children = true)
    (h : protectEntry sc e = some e') : unprotectEntry e' = some (e, schemeSinf sc e.kind) := by
  obtain ⟨k, hk, rfl⟩ := protectEntry_eq h
  rw [unprotectEntry, if_pos hk]
  simp only [lastSinf_append, dropFirstSinf_append _ _ hn, schemeSinf_fields]

def noPsshMoov : List MoovChild → Bool
  | [] => true
  | .pssh _ :: _ => false
  | _ :: rest => noPsshMoov rest

theorem mapTraks_noTrak (g : Trak → Trak) (l : List MoovChild) (h : traksOf l = []) : mapTraks g l = l := by
  fun_induction traksOf l <;> simp_all [mapTraks]

theorem decryptTraks_noTrak (l : List MoovChild) (h : traksOf l = []) : decryptTraks l = some (l, []) := by
  fun_induction traksOf l <;> simp_all [decryptTraks]

theorem traksOf_append_pssh (l : List MoovChild) (ps : List Nat) : traksOf (l ++ ps.map MoovChild.pssh) = traksOf l := by
  fun_induction traksOf l <;> simp_all [traksOf]
  induction ps <;> simp_all [traksOf]

@[simp] theorem moov_isPssh_other (k : String) (n : Nat) : (MoovChild.other k n).isPssh = false := rfl
@[simp] theorem moov_isPssh_pssh (n : Nat) : (MoovChild.pssh n).isPssh = true := rfl
@[simp] theorem moov_isPssh_trak (t : Trak) : (MoovChild.trak t).isPssh = false := rfl

theorem filter_append_pssh (l : List MoovChild) (ps : List Nat) (h : noPsshMoov l = true) :
    (l ++ ps.map MoovChild.pssh).filter (fun c => !c.isPssh) = l := by
  fun_induction noPsshMoov l <;> simp_all [MoovChild.isPssh]

theorem mapTraks_append_pssh (g : Trak → Trak) (l : List MoovChild) (ps : List Nat) :
    mapTraks g (l ++ ps.map MoovChild.pssh) = mapTraks g l ++ ps.map MoovChild.pssh := by
  induction l with
  | nil => exact mapTraks_noTrak g _ (traksOf_append_pssh [] ps)
  | cons c l ih => cases c <;> simp [mapTraks, ih]

theorem decryptTraks_one (sc : Scheme) (t : Trak) (e e' : SampleEntry) (hn : noSinf e.children = true)
    (hp : protectEntry sc e = some e') (hte : t.entries = [e]) (l : List MoovChild) (h : traksOf l = [t]) :
    decryptTraks (mapTraks (fun t => { t with entries := [e'] }) l) = some (l, [(t.trackID, some (sc.name, sc.ivLen))]) := by
  fun_induction traksOf l
  · cases h
  · next t0 rest _ =>
    obtain ⟨rfl, hrest⟩ := List.cons.inj h
    have hk : e'.kind = "encv" ∨ e'.kind = "enca" := by
      obtain ⟨k, hk, rfl⟩ := protectEntry_eq hp
      exact hk.imp (·.2) (·.2)
    have hde : decryptEntries [e'] = some ([e], [(sc.name, sc.ivLen)]) := by
      simp only [decryptEntries, if_pos hk, unprotect_protect hn hp, schemeSinf_fields]
    simp only [mapTraks, decryptTraks, hde, mapTraks_noTrak _ _ hrest, decryptTraks_noTrak _ hrest]
    cases t0; cases sc <;> simp_all [Scheme.name, Scheme.ivLen]
  · simp_all [mapTraks, decryptTraks]

end Mp4ff.Protect
