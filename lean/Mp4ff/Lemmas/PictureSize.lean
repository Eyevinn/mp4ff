import Mp4ff.Model.AvcSps
import Mp4ff.Model.HevcSps
import Mp4ff.Lemmas.Basics
/-!
C15, picture size: the width/height the AVC and HEVC SPS parsers derive (Go unsigned arithmetic, wrapping) against the
standards' derivations.
-/
namespace Mp4ff.Bits

/-! Go's unsigned arithmetic where nothing overflows, in the shapes in which the parsers compute sizes -/

theorem mod_mul_mod_eq {M a k : Nat} (h : a * k < M) (hk : 0 < k) : (a % M * k) % M = a * k := by
  have : a ≤ a * k := Nat.le_mul_of_pos_right a hk
  rw [Nat.mod_eq_of_lt (Nat.lt_of_le_of_lt this h), Nat.mod_eq_of_lt h]

/-- unsigned `a - k * s` computed modulo `M`, the product itself taken modulo `M`, does not wrap when `k * s ≤ a` -/
theorem wrapSub_mul_eq {M a s k : Nat} (ha : a < M) (hk : k * s ≤ a) :
    (a + M - (s % M * k) % M) % M = a - k * s := by
  rcases Nat.eq_zero_or_pos k with rfl | hk0
  · simp [Nat.mod_eq_of_lt ha]
  · rw [mod_mul_mod_eq (by rw [Nat.mul_comm]; omega) hk0, Nat.mul_comm s k, wrap_sub hk ha]

end Mp4ff.Bits

namespace Mp4ff.AvcSps
open Mp4ff.BitSyn Mp4ff.Bits

theorem dims_eq_std_partial (t : Trace) (hf : t.nat "frame_mbs_only_flag" ≤ 1)
    (hsep : t.get "separate_colour_plane_flag" = 1 → chromaFormat t ≠ 1 ∧ chromaFormat t ≠ 2)
    (hfit : CropFits t) :
    dims t = stdDims t := by
  obtain ⟨hH, hWd, hcrop⟩ := hfit
  unfold dims stdDims
  generalize chromaFormat t = c at hsep ⊢
  generalize t.nat "frame_mbs_only_flag" = fmo at hf hH hcrop ⊢
  generalize t.nat "pic_height_in_map_units_minus1" = h at hH hcrop ⊢
  generalize W64 = W at hH hWd ⊢
  rw [show (h + 1) * 16 * (2 - fmo) = 16 * ((2 - fmo) * (h + 1)) by ac_rfl] at hH hcrop
  have hpos : h + 1 ≤ (2 - fmo) * (h + 1) := Nat.le_mul_of_pos_left _ (by omega)
  -- the coded size does not wrap
  have hw := mod_mul_mod_eq hWd (by decide)
  have hh : (if fmo = 1 then ((h + 1) % W * 16) % W else (((h + 1) % W * 16) % W * 2) % W) =
      16 * ((2 - fmo) * (h + 1)) := by
    rw [mod_mul_mod_eq (a := h + 1) (by omega) (by decide)]
    rcases (by omega : fmo = 0 ∨ fmo = 1) with rfl | rfl
    · rw [if_neg (by decide), Nat.mod_eq_of_lt (by omega)]; omega
    · rw [if_pos rfl]; omega
  simp only [hw, hh]
  by_cases hc : t.get "frame_cropping_flag" = 1
  · obtain ⟨hx, hy⟩ := hcrop hc
    -- nor does the subtraction, with the crop units `kx ≤ 2`, `ky ≤ 2 * (2 - fmo)` of either derivation
    have ex := fun kx (hk : kx ≤ 2) => wrapSub_mul_eq (k := kx) hWd (Nat.le_trans (Nat.mul_le_mul_right _ hk) hx)
    have ey := fun ky (hk : ky ≤ 2 * (2 - fmo)) => wrapSub_mul_eq (k := ky) hH
      (Nat.le_trans (Nat.mul_le_mul_right _ (Nat.le_trans hk (by omega : _ ≤ 4))) hy)
    have ex1 := ex 1 (by decide)
    have ex2 := ex 2 (by decide)
    have ey1 := ey (2 - fmo) (by omega)
    have ey2 := ey (2 * (2 - fmo)) (Nat.le_refl _)
    by_cases hs : t.get "separate_colour_plane_flag" = 1
    · match c, hsep hs with
      | 0, _ | 3, _ => simp only [hc, hs, if_true, Option.map_some, ex1, ey1]
      | n + 4, _ => simp only [hc, if_true, Option.map_none]
    · match c with
      | 1 => simp only [hc, hs, if_true, if_false, Option.map_some, ex2, ey2, Nat.one_ne_zero]
      | 2 => simp only [hc, hs, if_true, if_false, Option.map_some, ex2, ey1, Nat.one_mul, Nat.reduceEqDiff]
      | 0 | 3 => simp only [hc, hs, if_true, if_false, Option.map_some, ex1, ey1, Nat.one_mul, ite_self]
      | n + 4 => simp only [hc, if_true, Option.map_none]
  · simp only [hc, if_false]

end Mp4ff.AvcSps

namespace Mp4ff.HevcSps
open Mp4ff.BitSyn

theorem dims_eq_std (t : Trace) (hc : t.nat "chroma_format_idc" ≤ 3) (hfit : WindowFits t) :
    stdDims t = some (dims t) := by
  obtain ⟨h1, h2, h3, h4⟩ := hfit
  unfold dims stdDims chroma
  generalize t.nat "chroma_format_idc" = c at hc ⊢
  -- under `WindowFits` no `% 2^32` has an effect and no subtraction wraps, whichever the chroma format; the bounds
  -- each rewrite needs follow from `h1 … h4` by `omega`
  simp (disch := omega) only [Nat.mod_eq_of_lt]
  match c, hc with
  | 0, _ | 1, _ | 2, _ | 3, _ =>
    simp (disch := omega) only [Nat.mod_eq_of_lt, wrap_sub, Nat.reduceEqDiff, if_true, if_false, Option.map_some,
      Nat.mul_comm _ 2, Nat.mul_one, Nat.one_mul]

end Mp4ff.HevcSps
