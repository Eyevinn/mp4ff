import Mp4ff.Lemmas.Ebsp
/-!
Exp-Golomb codes. `WriteExpGolomb nr` is `Write` of the fields `ueFields nr`, so the writer needs nothing beyond the lemmas
for fields; `ReadExpGolomb` counts the zeros and reads the suffix (`ER.reads_ue`); se(v) goes through `seToUe`
(`ER.reads_se`). Below 2^32 the 64-bit sums of the Go code do not wrap.
-/
namespace Mp4ff.Bits

/-- the prefix search keeps `offset = 2^p - 1`, `max = 2^(p+1) - 2` and stops at the `q` with `2^q ≤ nr+1 < 2^(q+1)` -/
theorem expGolombPrefix_inv (nr : Nat) : ∀ (fuel p offset max : Nat), offset + 1 = 2 ^ p → max + 2 = 2 * 2 ^ p →
    2 ^ p ≤ nr + 1 → nr + 1 < 2 ^ (p + fuel) →
    ∃ q, expGolombPrefix nr fuel p offset max = (q, 2 ^ q - 1) ∧ 2 ^ q ≤ nr + 1 ∧ nr + 1 < 2 ^ (q + 1) := by
  intro fuel
  induction fuel with
  | zero => intro p offset max _ _ h1 h2; exact absurd h1 (Nat.not_le.2 h2)
  | succ fuel ih =>
    intro p offset max ho hm h1 h2
    unfold expGolombPrefix
    split
    · exact ⟨p, by rw [← ho]; rfl, h1, by omega⟩
    · exact ih (p + 1) _ _ (by omega) (by omega) (by omega) (by rwa [Nat.add_right_comm, Nat.add_assoc])

/-- Exp-Golomb prefix length of `nr`: the `p` with `2^p ≤ nr+1 < 2^(p+1)` -/
def ueLen (nr : Nat) : Nat := (expGolombPrefix nr 64 0 0 0).1

theorem ueLen_spec (nr : Nat) (h : nr < 2 ^ 32) :
    expGolombPrefix nr 64 0 0 0 = (ueLen nr, 2 ^ ueLen nr - 1) ∧
    2 ^ ueLen nr ≤ nr + 1 ∧ nr + 1 < 2 ^ (ueLen nr + 1) ∧ ueLen nr ≤ 32 := by
  have h64 : nr + 1 < 2 ^ (0 + 64) := by omega
  obtain ⟨q, e, hq2, hq3⟩ := expGolombPrefix_inv nr 64 0 0 0 rfl rfl (Nat.le_add_left 1 nr) h64
  have hq : ueLen nr = q := by unfold ueLen; rw [e]
  rw [hq]
  exact ⟨e, hq2, hq3, (Nat.pow_le_pow_iff_right (by decide)).1 (Nat.le_trans hq2 h)⟩

/-- the bits of ue(nr): `p` zeros, a one, then `p` bits of `nr + 1 - 2^p` -/
def ueBits (nr : Nat) : List Bool :=
  lowBits (ueLen nr + 1) 1 ++ lowBits (ueLen nr) (nr - (2 ^ ueLen nr - 1))

/-- what `WriteExpGolomb` hands to `Write` -/
def ueFields (nr : Nat) : List (Nat × Nat) :=
  if ueLen nr > 0 then [(ueLen nr + 1, 1), (ueLen nr, nr - (2 ^ ueLen nr - 1))] else [(1, 1)]

theorem fieldBits_ueFields (nr : Nat) : fieldBits (ueFields nr) = ueBits nr := by
  unfold ueFields ueBits
  by_cases h : ueLen nr > 0
  · simp [h, fieldBits]
  · have : ueLen nr = 0 := by omega
    simp [this, fieldBits, lowBits]

theorem EW.writeExpGolomb_eq (w : EW) (nr : Nat) (h : nr < 2 ^ 32) :
    w.writeExpGolomb nr = w.writeAll (ueFields nr) := by
  unfold EW.writeExpGolomb ueFields
  rw [(ueLen_spec nr h).1]
  by_cases hp : ueLen nr > 0
  · simp [hp, EW.writeAll]
  · have h0 : ueLen nr = 0 := by omega
    simp [h0, EW.writeAll]

theorem ueFields_le (nr : Nat) (h : nr < 2 ^ 32) : ∀ kv ∈ ueFields nr, kv.1 ≤ 56 := by
  have hl := (ueLen_spec nr h).2.2.2
  unfold ueFields
  intro kv hkv
  split at hkv
  · simp at hkv; rcases hkv with h | h <;> subst h <;> simp <;> omega
  · simp at hkv; subst hkv; simp

/-- the zero-counting loop of `ReadExpGolomb` in front of `p` zeros and a one: `cnt` is the number of zeros taken so far;
    a round takes one bit, so `p + 1` rounds are needed -/
theorem ER.reads_zeros : ∀ (fuel p cnt : Nat), p + 1 ≤ fuel →
    ER.Reads (fun e => ER.countZeros fuel e cnt) (List.replicate p false ++ [true]) (some (cnt + p)) := by
  intro fuel
  induction fuel with
  | zero => intro p cnt hf; omega
  | succ f ih =>
    intro p cnt hf e P tail he habs
    cases p with
    | zero =>
      obtain ⟨e1, P1, q1, i1, a1, n1⟩ := ER.reads_bit true he habs
      exact ⟨e1, P1, by simp [ER.countZeros, q1, i1.err], i1, a1, n1⟩
    | succ p =>
      obtain ⟨e1, P1, q1, i1, a1, n1⟩ := ER.reads_bit false he habs
      obtain ⟨e2, P2, q2, i2, a2, n2⟩ := ih p (cnt + 1) (by omega) i1 a1
      refine ⟨e2, P2, ?_, i2, a2, n2.trans n1⟩
      rw [show cnt + (p + 1) = cnt + 1 + p by omega]
      simpa [ER.countZeros, q1, i1.err] using q2

theorem seToUe_lt {x : Int} (hx : -(2 ^ 31 : Int) < x ∧ x < 2 ^ 31) : seToUe x < 2 ^ 32 := by
  unfold seToUe
  split <;> omega

/-- the value `ReadExpGolomb` puts together from the `ueLen nr` suffix bits -/
theorem ue_value (nr : Nat) (h : nr < 2 ^ 32) :
    nr - (2 ^ ueLen nr - 1) < 2 ^ ueLen nr ∧
    ((2 ^ ueLen nr - 1) % W64 + (nr - (2 ^ ueLen nr - 1))) % W64 = nr := by
  obtain ⟨_, hp1, hp2, _⟩ := ueLen_spec nr h
  have h32 : (2:Nat) ^ 32 < W64 := by unfold W64; decide
  have hoff : 2 ^ ueLen nr - 1 ≤ nr := Nat.sub_le_of_le_add hp1
  rw [Nat.mod_eq_of_lt (a := 2 ^ ueLen nr - 1) (by omega), Nat.add_sub_cancel' hoff,
    Nat.mod_eq_of_lt (Nat.lt_trans h h32)]
  exact ⟨by omega, rfl⟩

theorem ER.reads_ue {nr : Nat} (hnr : nr < 2 ^ 32) : ER.Reads ER.readExpGolomb (ueBits nr) nr := by
  intro e P tail he habs
  rw [ueBits, lowBits_one, List.append_assoc] at habs
  have hfuel : ueLen nr + 1 ≤ e.bitsLeft + 1 := by
    have := he.abs_length_le
    rw [habs] at this
    simp at this; omega
  obtain ⟨hdelta, hval⟩ := ue_value nr hnr
  obtain ⟨e1, P1, q1, i1, a1, n1⟩ := ER.reads_zeros _ _ 0 hfuel he habs
  obtain ⟨e2, P2, q2, i2, a2, n2⟩ := ER.reads_field hdelta (by have := (ueLen_spec nr hnr).2.2.2; omega) i1 a1
  refine ⟨e2, P2, ?_, i2, a2, n2.trans n1⟩
  simp only [ER.readExpGolomb, he.err, Bool.false_eq_true, if_false, q1, Nat.zero_add, q2, i2.err, hval]

theorem seToUe_decode (x : Int) :
    (if seToUe x % 2 = 1 then (((seToUe x + 1) / 2 : Nat) : Int) else - ((seToUe x / 2 : Nat) : Int)) = x := by
  unfold seToUe
  by_cases hx : x > 0
  · rw [if_pos hx, if_pos (by omega)]; omega
  · rw [if_neg hx, if_neg (by omega)]; omega

theorem ER.reads_se {x : Int} (hx : -(2 ^ 31 : Int) < x ∧ x < 2 ^ 31) :
    ER.Reads ER.readSignedGolomb (ueBits (seToUe x)) x := by
  intro e P tail he habs
  obtain ⟨e', P', q, i, a, n⟩ := ER.reads_ue (seToUe_lt hx) he habs
  refine ⟨e', P', ?_, i, a, n⟩
  have := seToUe_decode x
  simp only [ER.readSignedGolomb, he.err, q, i.err, Bool.false_eq_true, if_false]
  split at this <;> simp only [*, if_true, if_false]

end Mp4ff.Bits
