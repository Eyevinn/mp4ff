import Mp4ff.Model.HevcSlice
import Mp4ff.Lemmas.BitSynRoundtrip
import Mp4ff.Lemmas.BitSynTotal
/-!
C15/C16 for the HEVC slice segment header: bit-level round trip, totality of the syntax part.
-/
namespace Mp4ff.HevcSlice
open Mp4ff.BitSyn Mp4ff.Bits

theorem slice_roundtrip_bits (f : Nat) (sm pm : PsMap) (cap : Nat) (tr : Trace)
    (os : List Op) (e : ER) (P : Bytes) (tail : List Bool)
    (hops : ops f (slice sm pm cap) [] tr = some (os, tr, [])) (hst : stopped tr = false) (hok : ∀ op ∈ os, op.OK)
    (he : e.Inv P) (habs : e.abs P = opsBits os ++ tail) :
    ∃ e' P', parse f (slice sm pm cap) [] e = some (tr, e') ∧ e'.Inv P' ∧ e'.abs P' = tail ∧ e'.err = false ∧
      e'.nread + e'.rest.length = e.nread + e.rest.length := by
  obtain ⟨e', P', h1, h2, h3, h4⟩ := parse_ops f (slice sm pm cap) [] tr os tr [] e P tail hops hst hok he habs
  exact ⟨e', P', h1, h2, h3, h2.err, h4⟩

theorem slice_total (sm pm : PsMap) (nalu : Bytes) (f : Nat) (hf : depthL (slice sm pm (capOf nalu)) ≤ f) :
    parseSlice f sm pm nalu ≠ .fuel := by
  obtain ⟨t, e, hp, _⟩ := parse_total_depth f (slice sm pm (capOf nalu)) [] { rest := nalu } hf
  unfold parseSlice
  simp only [hp]
  -- the alignment loop behind the syntax is total by construction: every branch is `.err` or `.ok _ _`
  repeat' split
  all_goals simp

end Mp4ff.HevcSlice
