import Mp4ff.Model.Aac
import Mp4ff.Lemmas.BitsWriter
import Mp4ff.Lemmas.BitsReader
import Mp4ff.Lemmas.Basics
/-!
AudioSpecificConfig and ADTS header. Both encoders are `BW.writeFields` of a field list (`encodeASC_eq`,
`encodeADTS_shape`), so `BW.writeFields_spec` gives the bits the decoders are run on; the decoders are stepped through
with `reads_field` (Lemmas/BitsReader.lean). The ADTS sync search is followed byte by byte over the junk in front of the
header (`syncSearch_spec`), with the reader always at a byte boundary (`readerAt`).
-/
namespace Mp4ff.Aac
open Mp4ff.Bits

theorem freq_tables_inverse : ∀ p ∈ freqTable, indexOfFreq p.2 = some p.1 ∧ freqOfIndex p.1 = some p.2 := by
  decide

/-- what `writeFreq` writes: the table index, or the escape value 15 and the frequency itself -/
def freqFields (f : Nat) : List (Nat × Nat) :=
  match indexOfFreq f with
  | some i => [(4, i)]
  | none => [(4, 15), (24, f)]

theorem writeFreq_eq (w : BW) (f : Nat) : writeFreq w f = w.writeAll (freqFields f) := by
  unfold writeFreq freqFields
  cases indexOfFreq f <;> rfl

theorem freqFields_le (f : Nat) : ∀ kv ∈ freqFields f, kv.1 ≤ 56 := by
  unfold freqFields
  split <;> simp

theorem freqFields_width (f : Nat) : ((freqFields f).map (·.1)).sum ≤ 28 := by
  unfold freqFields
  split <;> simp

theorem indexOfFreq_some {f i : Nat} (h : indexOfFreq f = some i) : i < 13 ∧ freqOfIndex i = some f := by
  have haux : ∀ p ∈ freqTable, p.1 < 13 ∧ freqOfIndex p.1 = some p.2 := by decide
  unfold indexOfFreq at h
  simp only [Option.map_eq_some_iff] at h
  obtain ⟨p, hp, rfl⟩ := h
  have hpf := List.find?_some hp
  simp at hpf
  subst hpf
  exact haux p (List.mem_of_find?_eq_some hp)

theorem getFrequency_spec {f : Nat} (hf : f < 2 ^ 24) : Reads getFrequency (fieldBits (freqFields f)) f := by
  intro r tail hr habs
  unfold freqFields at habs
  unfold getFrequency
  cases h : indexOfFreq f with
  | some i =>
    simp only [h, fieldBits, List.append_nil] at habs
    obtain ⟨hi, hfi⟩ := indexOfFreq_some h
    obtain ⟨r1, e1, i1, a1, n1⟩ := reads_field (k := 4) (by omega) (by decide) hr habs
    have : i ≠ 15 := by omega
    have hm : i % 256 = i := by omega
    simp only [e1, this, if_false, i1.err, hm, hfi, Bool.false_eq_true]
    exact ⟨r1, rfl, i1, a1, n1⟩
  | none =>
    simp only [h, fieldBits, List.append_nil, List.append_assoc] at habs
    obtain ⟨r1, e1, i1, a1, n1⟩ := reads_field (k := 4) (by decide) (by decide) hr habs
    obtain ⟨r2, e2, i2, a2, n2⟩ := reads_field (k := 24) hf (by decide) i1 a1
    simp only [e1, e2, if_true, i2.err, Bool.false_eq_true, if_false]
    exact ⟨r2, rfl, i2, a2, n2.trans n1⟩

/-- the fields `AudioSpecificConfig.Encode` writes -/
def ASC.fields (a : ASC) : List (Nat × Nat) :=
  (5, a.objectType) :: (freqFields a.samplingFrequency ++ (4, a.channelConfiguration) ::
    ((if a.objectType = 5 ∨ a.objectType = 29 then freqFields a.extensionFrequency ++ [(5, 2)] else []) ++ [(3, 0)]))

theorem encodeASC_eq (a : ASC) (h : a.objectType = 2 ∨ a.objectType = 5 ∨ a.objectType = 29) :
    encodeASC a = some (BW.writeFields a.fields) := by
  unfold encodeASC ASC.fields BW.writeFields
  rw [if_pos h]
  simp only [writeFreq_eq, BW.writeAll, BW.writeAll_append]
  split <;> simp only [BW.writeAll_append, BW.writeAll]

theorem ASC.fields_le (a : ASC) : ∀ kv ∈ a.fields, kv.1 ≤ 56 := by
  unfold ASC.fields
  simp only [List.forall_mem_cons, List.forall_mem_append, Nat.reduceLeDiff, true_and]
  refine ⟨freqFields_le _, ?_, by simp⟩
  split
  · exact List.forall_mem_append.2 ⟨freqFields_le _, by simp⟩
  · simp

/-- 5 + 28 + 4 + 28 + 5 + 3 bits at most -/
theorem ASC.fields_width (a : ASC) : ((a.fields).map (·.1)).sum ≤ 73 := by
  have h1 := freqFields_width a.samplingFrequency
  have h2 := freqFields_width a.extensionFrequency
  unfold ASC.fields
  split <;> simp only [List.map_cons, List.map_append, List.map_nil, List.sum_cons, List.sum_append, List.sum_nil] <;>
    omega

/-- the whole domain the library supports -/
def AscDom (a : ASC) : Prop :=
  (a.objectType = 2 ∨ a.objectType = 5 ∨ a.objectType = 29) ∧ a.channelConfiguration < 16 ∧
  a.samplingFrequency < 2 ^ 24 ∧ a.extensionFrequency < 2 ^ 24 ∧
  (a.objectType = 2 → a.extensionFrequency = 0) ∧
  a.sbrPresent = decide (a.objectType = 5 ∨ a.objectType = 29) ∧ a.psPresent = decide (a.objectType = 29)

theorem asc_roundtrip (a : ASC) (h : AscDom a) :
    ∃ bs, encodeASC a = some bs ∧ decodeASC bs = .ok a := by
  obtain ⟨hot, hch, hsf, hef, h2, hsbr, hps⟩ := h
  refine ⟨_, encodeASC_eq a hot, ?_⟩
  obtain ⟨hB, pad, _, hbits⟩ := BW.writeFields_spec _ a.fields_le
  generalize BW.writeFields a.fields = bs at hB hbits ⊢
  obtain ⟨i0, a0⟩ := BR.init_spec 0 hB
  obtain ⟨ot, ch, sf, ef, sbr, ps⟩ := a
  simp only at hot hch hsf hef h2 hsbr hps
  rw [hbits] at a0
  simp only [ASC.fields, fieldBits, fieldBits_append, List.append_assoc] at a0
  have hot32 : ot < 2 ^ 5 := by omega
  obtain ⟨r1, e1, i1, a1, -⟩ := reads_field (k := 5) hot32 (by decide) i0 a0
  obtain ⟨r2, e2, i2, a2, -⟩ := getFrequency_spec hsf i1 a1
  obtain ⟨r3, e3, i3, a3, -⟩ := reads_field (k := 4) hch (by decide) i2 a2
  have hm : ot % 256 = ot := Nat.mod_eq_of_lt (Nat.lt_trans hot32 (by decide))
  have hc : ch % 256 = ch := Nat.mod_eq_of_lt (Nat.lt_trans hch (by decide))
  unfold decodeASC
  simp only [e1, hm, hot, if_true, e2, e3, hc]
  by_cases h5 : ot = 5 ∨ ot = 29
  · simp only [h5, if_true, fieldBits, fieldBits_append, List.append_assoc] at a3 ⊢
    obtain ⟨r4, e4, i4, a4, -⟩ := getFrequency_spec hef i3 a3
    obtain ⟨r5, e5, i5, a5, -⟩ := reads_field (k := 5) (v := 2) (by decide) (by decide) i4 a4
    simp [e4, e5, hsbr, hps, h5]
  · simp [h5, hsbr, hps, h2 (hot.resolve_right h5)]

def AdtsDom (a : ADTS) : Prop :=
  a.id = 0 ∧ 1 ≤ a.objectType ∧ a.objectType ≤ 4 ∧ a.samplingFrequencyIndex < 16 ∧ a.channelConfig < 8 ∧
  a.headerLength = 7 ∧ a.payloadLength ≤ 8184 ∧ a.bufferFullness < 2048

/-- no byte pair inside the junk looks like a sync word (ff, then fx with layer bits 00) -/
def NoFalseSync : Bytes → Prop
  | a :: b :: rest => ¬ (a = 0xff ∧ b / 16 = 0xf ∧ (b / 2) % 4 = 0) ∧ NoFalseSync (b :: rest)
  | _ => True

/-- the reader at a byte boundary with `k` bytes taken and `rest` in front -/
def readerAt (k : Nat) (rest : Bytes) : BR := { n := 0, v := 0, nread := k, rest := rest, err := false }

theorem readerAt_read8 (k b : Nat) (rest : Bytes) :
    BR.read (readerAt k (b :: rest)) 8 = (readerAt (k + 1) rest, b) := by
  simp [readerAt, BR.read, BR.fill, mask, W64]

theorem NoFalseSync.tail {b : Nat} {junk : Bytes} (h : NoFalseSync (b :: junk)) : NoFalseSync junk := by
  cases junk with
  | nil => trivial
  | cons c rest => exact h.2

theorem syncSearch_skip (n : Nat) (st : SyncState) (k b : Nat) (rest : Bytes) (h2 : st.sync2 ≠ 0xff)
    (hr : st.r = readerAt k (b :: rest)) (hb : b < 255) :
    syncSearch (n + 1) st = syncSearch n { st with r := readerAt (k + 1) rest, offset := st.offset + 1 } := by
  have : b % 256 = b := by omega
  have : b ≠ 255 := by omega
  simp [syncSearch, readerAt_read8, *]

/-- with `junk` (free of sync patterns, shorter than the fuel) in front of a sync word, the search stops behind the
    word's two bytes and reports the offset of its first byte -/
theorem syncSearch_spec (hdr : Bytes) : ∀ (n : Nat) (junk : Bytes) (st : SyncState) (k : Nat) (T : Int), IsBytes junk →
    NoFalseSync junk → junk.length + 1 ≤ n → st.sync2 ≠ 0xff → st.r = readerAt k (junk ++ 0xff :: 0xf1 :: hdr) →
    st.offset + junk.length = T → ∃ k', syncSearch n st =
      { r := readerAt k' hdr, sync2 := 0xf1, offset := T, mpegID := 0, layer := 0, protectionAbsent := 1, found := true } := by
  intro n
  induction n with
  | zero => intro junk st k T _ _ hl; omega
  | succ n ih =>
    intro junk st k T hj hns hl h2 hr hT
    cases junk with
    | nil => exact ⟨k + 2, by simp [syncSearch, readerAt_read8, h2, hr, ← hT]⟩
    | cons b junk' =>
      simp only [List.length_cons] at hl hT
      have hl' : junk'.length + 1 ≤ n := Nat.le_of_succ_le_succ hl
      by_cases hbf : b = 0xff
      · subst hbf
        -- behind the `0xff` comes a junk byte or the sync word's own `0xff`: neither completes a sync word
        obtain ⟨c, rest, hc, hcr, hno⟩ : ∃ c rest, c < 256 ∧ junk' ++ 0xff :: 0xf1 :: hdr = c :: rest ∧
            ¬ (c / 16 = 0xf ∧ c / 2 % 4 = 0) := by
          cases junk' with
          | nil => exact ⟨0xff, _, by decide, rfl, by decide⟩
          | cons c j => exact ⟨c, _, hj c (by simp), rfl, fun h => hns.1 ⟨rfl, h⟩⟩
        rw [List.cons_append, hcr] at hr
        have : c % 256 = c := Nat.mod_eq_of_lt hc
        -- this iteration reads `0xff` and then `c` and keeps `c` pending; the new state `st'` is what unfolding the
        -- iteration yields, and its three projections are read off it afterwards
        obtain ⟨st', e, s1, s2, s3⟩ : ∃ st', syncSearch (n + 1) st = syncSearch n st' ∧ st'.sync2 = c ∧
            st'.r = readerAt (k + 2) rest ∧ st'.offset = st.offset + 2 :=
          ⟨_, by simp [syncSearch, readerAt_read8, h2, hr, this, hno]; rfl, by rfl, by rfl, by rfl⟩
        rw [e]
        by_cases hcf : c = 0xff
        · -- `c` is pending: taken as not yet read, it is the first byte of what is still in front of the reader
          obtain ⟨m, rfl⟩ := Nat.exists_eq_add_one.2 (Nat.lt_of_lt_of_le (Nat.succ_pos _) hl')
          rw [show syncSearch (m + 1) st' = syncSearch (m + 1)
              { st' with sync2 := 0, r := readerAt (k + 1) (0xff :: rest), offset := st'.offset - 1 } by
            simp [syncSearch, s1.trans hcf, s2, readerAt_read8]]
          exact ih junk' _ (k + 1) T hj.tail hns.tail hl' (by simp) (by simp [hcr, hcf])
            (by simp [s3]; omega)
        · cases junk' with
          | nil => exact absurd (List.cons.inj hcr).1.symm hcf
          | cons c' j =>
            obtain ⟨rfl, rfl⟩ := List.cons.inj hcr
            exact ih j st' (k + 2) T hj.tail.tail hns.2.tail (Nat.le_of_succ_le hl') (by rwa [s1]) s2
              (by simp at hT; omega)
      · rw [syncSearch_skip n st k b _ h2 (by rw [hr]; rfl)
          (Nat.lt_of_le_of_ne (Nat.le_of_lt_succ (hj b (by simp))) hbf)]
        exact ih junk' _ (k + 1) T hj.tail hns.tail hl' h2 rfl (by simp; omega)

/-- the fields behind the first two bytes (syncword, ID, layer, protection_absent) -/
def adtsTailFields (a : ADTS) : List (Nat × Nat) :=
  [(2, a.objectType - 1), (4, a.samplingFrequencyIndex), (1, 0), (3, a.channelConfig), (4, 0),
   (13, a.payloadLength + 7), (11, a.bufferFullness), (2, 0)]

theorem encodeADTS_shape (a : ADTS) (h : AdtsDom a) :
    ∃ bs pad, encodeADTS a = 0xff :: 0xf1 :: bs ∧ IsBytes bs ∧
      bitsOfBytes bs = fieldBits (adtsTailFields a) ++ pad := by
  obtain ⟨hid, ho1, ho4, hsfi, hch, hhl, hpl, hbf⟩ := h
  have e1 : (a.objectType + W64 - 1) % W64 = a.objectType - 1 := wrap_sub ho1 (Nat.lt_of_le_of_lt ho4 (by decide))
  have e2 : (a.payloadLength + 7) % 65536 = a.payloadLength + 7 := Nat.mod_eq_of_lt (by omega)
  have henc : encodeADTS a = BW.writeFields ((12, 0xfff) :: (4, 1) :: adtsTailFields a) := by
    unfold encodeADTS; rw [e1, e2]; rfl
  obtain ⟨hB, pad, _, hbits⟩ := BW.writeFields_spec _ (by simp only [adtsTailFields, List.forall_mem_cons]; simp :
    ∀ kv ∈ (12, 0xfff) :: (4, 1) :: adtsTailFields a, kv.1 ≤ 56)
  rw [← henc] at hB hbits
  -- syncword 0xfff, ID 0, layer 00, protection_absent 1: the first two bytes
  have h16 : ∀ X, fieldBits ((12, 0xfff) :: (4, 1) :: X) = lowBits 8 0xff ++ (lowBits 8 0xf1 ++ fieldBits X) :=
    fun _ => rfl
  rw [h16, List.append_assoc, List.append_assoc] at hbits
  obtain ⟨l1, hl1, hbits⟩ := bitsOfBytes_eq_cons hB (by decide) hbits
  rw [hl1] at hB
  obtain ⟨l2, hl2, hbits⟩ := bitsOfBytes_eq_cons hB.tail (by decide) hbits
  rw [hl2] at hB hl1
  exact ⟨l2, _, hl1, hB.tail.tail, hbits⟩

theorem adts_roundtrip (a : ADTS) (h : AdtsDom a) (junk tail : Bytes) (hj : IsBytes junk) (ht : IsBytes tail)
    (hl : junk.length ≤ 187) (hns : NoFalseSync junk) :
    decodeADTS (junk ++ encodeADTS a ++ tail) = .ok (a, (junk.length : Int)) := by
  obtain ⟨bs, pad, henc, hbs, hbits⟩ := encodeADTS_shape a h
  obtain ⟨hid, ho1, ho4, hsfi, hch, hhl, hpl, hbf⟩ := h
  obtain ⟨k', e⟩ := syncSearch_spec (bs ++ tail) 188 junk { r := { rest := junk ++ encodeADTS a ++ tail } } 0 junk.length
    hj hns (Nat.succ_le_succ hl) (by simp) (by simp [readerAt, henc]) (by simp)
  have hbt : IsBytes (bs ++ tail) := hbs.append ht
  obtain ⟨i0, a0⟩ := BR.init_spec k' hbt
  rw [bitsOfBytes_append, hbits] at a0
  simp only [adtsTailFields, fieldBits, List.append_assoc] at a0
  obtain ⟨r1, e1, i1, a1, -⟩ := reads_field (k := 2) (Nat.sub_one_lt_of_le ho1 ho4) (by decide) i0 a0
  obtain ⟨r2, e2, i2, a2, -⟩ := reads_field (k := 4) hsfi (by decide) i1 a1
  obtain ⟨r3, e3, i3, a3, -⟩ := reads_field (k := 1) (by decide) (by decide) i2 a2
  obtain ⟨r4, e4, i4, a4, -⟩ := reads_field (k := 3) hch (by decide) i3 a3
  obtain ⟨r5, e5, i5, a5, -⟩ := reads_field (k := 4) (by decide) (by decide) i4 a4
  obtain ⟨r6, e6, i6, a6, -⟩ :=
    reads_field (k := 13) (Nat.add_lt_add_right (Nat.lt_succ_of_le hpl) 7) (by decide) i5 a5
  obtain ⟨r7, e7, i7, a7, -⟩ := reads_field (k := 11) hbf (by decide) i6 a6
  obtain ⟨r8, e8, i8, a8, -⟩ := reads_field (k := 2) (by decide) (by decide) i7 a7
  unfold decodeADTS
  simp only [e, readerAt, e1, e2, e3, e4, e5, e6, e7, e8, show ¬ ((1:Nat) ≠ 1) by decide, if_false, i8.err]
  obtain ⟨id, ot, sfi, ch, hl', pl, bf⟩ := a
  simp only at hid ho1 ho4 hsfi hch hhl hpl hbf
  subst hid hhl
  simp [Nat.sub_add_cancel ho1, Nat.add_assoc]
  omega

theorem syncSearch_no_ff (rest : Bytes) : ∀ (junk : Bytes) (st : SyncState) (k : Nat),
    st.sync2 ≠ 0xff → st.found = false → st.r = readerAt k (junk ++ rest) → (∀ b ∈ junk, b < 255) →
    ∃ k', (syncSearch junk.length st).r = readerAt k' rest ∧ (syncSearch junk.length st).found = false := by
  intro junk
  induction junk with
  | nil => intro st k _ hf hr _; exact ⟨k, hr, hf⟩
  | cons b junk ih =>
    intro st k h2 hf hr hb
    rw [List.length_cons, syncSearch_skip _ st k b _ h2 (by rw [hr]; rfl) (hb b (by simp))]
    exact ih _ (k + 1) h2 hf rfl (fun x hx => hb x (by simp [hx]))

end Mp4ff.Aac
