import Mp4ff.Lemmas.ScanEq
import Mp4ff.Lemmas.NaluLenPrefixedSpec
import Mp4ff.Lemmas.NaluAnnexBReaders
/-!
The Annex B readers on well-formed streams.  First `toSample`; then `extractNalus_annexB`, the one induction over the units of
the stream: the other readers follow from it because they are functions of what `extractNalus` returns
(Lemmas/NaluAnnexBReaders.lean).  `paramSetsFromByteStream` agrees with `psSpecU` only when no parameter-set type is a video type;
for arbitrary `c`/`isPS` it is `psSpecV`.
-/
namespace Mp4ff.Nalu

def UnitsBytes (units : List (Nat × Bytes)) : Prop := ∀ u ∈ units, IsBytes u.2

/-- NALU length from an entry and its successor (if any); `L` = stream length -/
def lenOf (L : Nat) (c : SC) (nx : Option SC) (inPlace : Bool) : Nat :=
  match nx with
  | some nx => nx.pos - c.pos - (if inPlace then 4 else nx.len)
  | none => L - c.pos

def foldPairs {β : Type} (g : β → SC → Option SC → β) : β → List SC → β
  | st, [] => st
  | st, c :: rest => foldPairs g (g st c rest.head?) rest

/-- the index loops of `toSample` (entry `i` and, for the length, entry `i + 1`) as a fold over the list -/
theorem foldl_naluLenAt {β : Type} (F : β → SC → Nat → β) (s : Bytes) (b : Bool) (scs : List SC) :
    ∀ (t pre : List SC) (init : β), scs = pre ++ t →
    (List.range' pre.length t.length).foldl
      (fun st i => match scs[i]? with | some c => F st c (naluLenAt s scs i b) | none => st) init =
      foldPairs (fun st c nx => F st c (lenOf s.length c nx b)) init t
  | [], _, _, _ => rfl
  | c :: t, pre, init, hl => by
    have h0 : scs[pre.length]? = some c := by rw [hl]; simp
    have h1 : scs[pre.length + 1]? = t.head? := by
      rw [hl, List.getElem?_append_right (by omega)]
      cases t <;> simp
    have hn : naluLenAt s scs pre.length b = lenOf s.length c t.head? b := by
      unfold naluLenAt lenOf; rw [h0, h1]; cases t.head? <;> rfl
    have := foldl_naluLenAt F s b scs t (pre ++ [c]) (F init c (lenOf s.length c t.head? b)) (by simp [hl])
    rw [List.length_append, List.length_singleton] at this
    rw [List.length_cons, List.range'_succ, List.foldl_cons, h0, foldPairs, ← this, hn]

/-- the smallest start code length is 4 only if every start code has 4 bytes -/
theorem scLen_all_four_of_min : ∀ (units : List (Nat × Bytes)) (off m : Nat), UnitsOK units → m ≤ 4 →
    (expectedSCs off units).foldl (fun m sc => if sc.len < m then sc.len else m) m = 4 →
    m = 4 ∧ ∀ u ∈ units, u.1 = 4
  | [], _, m, _, _, h => ⟨h, fun _ hu => nomatch hu⟩
  | (k, n) :: rest, off, m, h, hm, hf => by
    have hk : k = 3 ∨ k = 4 := (h (k, n) (List.mem_cons_self ..)).1
    simp only [expectedSCs, List.foldl_cons] at hf
    obtain ⟨h1, h2⟩ := scLen_all_four_of_min rest _ _ (UnitsOK.tail h) (by split <;> omega) hf
    have : m = 4 ∧ k = 4 := by split at h1 <;> omega
    exact ⟨this.1, fun u hu => (List.mem_cons.1 hu).elim (fun e => e ▸ this.2) (h2 u)⟩

theorem lenOf_expectedSCs_head (L off k : Nat) (m : Bytes) (rest : List (Nat × Bytes)) (b : Bool)
    (hL : L = off + k + m.length + (annexB rest).length) (h4 : b = true → ∀ u ∈ rest, u.1 = 4) :
    lenOf L ⟨k, off + k⟩ (expectedSCs (off + k + m.length) rest).head? b = m.length := by
  cases rest with
  | nil => simp [expectedSCs, lenOf, hL, annexB]
  | cons u rest' =>
    obtain ⟨k', m'⟩ := u
    simp only [expectedSCs, List.head?, lenOf]
    cases b with
    | false => simp only [Bool.false_eq_true, if_false]; omega
    | true =>
      have := h4 rfl (k', m') (by simp)
      simp only at this
      simp only [if_true]; omega

theorem foldPairs_copy_annexB (s : Bytes) (hlt : s.length < U32) : ∀ (units : List (Nat × Bytes)), UnitsOK units →
    ∀ (pre out : Bytes), s = pre ++ annexB units →
    foldPairs (fun out c nx => out ++ put32 (lenOf s.length c nx false % U32) ++
        slice s c.pos (c.pos + lenOf s.length c nx false)) out (expectedSCs pre.length units) =
      out ++ lenPrefixed (units.map (·.2))
  | [], _, _, _, _ => by simp [expectedSCs, foldPairs, lenPrefixed]
  | (k, m) :: rest, h, pre, out, hs => by
    have hkl := startCode_length k (h (k, m) (List.mem_cons_self ..)).1
    have hs2 : s = (pre ++ startCode k) ++ (m ++ annexB rest) := by simp [hs, annexB]
    have hL : s.length = pre.length + k + m.length + (annexB rest).length := by
      simp only [hs2, List.length_append, hkl, Nat.add_assoc]
    have hm : m.length < U32 := Nat.lt_of_le_of_lt (hL ▸ Nat.le_add_right_of_le (Nat.le_add_left ..)) hlt
    have hsl := slice_mid s (pre ++ startCode k) m (annexB rest) hs2
    have ih := foldPairs_copy_annexB s hlt rest (UnitsOK.tail h) (pre ++ startCode k ++ m) (out ++ put32 m.length ++ m)
      (by simp [hs2])
    simp only [List.length_append, hkl] at hsl ih
    simp only [expectedSCs, foldPairs, lenOf_expectedSCs_head s.length pre.length k m rest false hL nofun,
      Nat.mod_eq_of_lt hm, hsl, ih]
    simp [lenPrefixed]

theorem foldPairs_patch_annexB (L : Nat) (hlt : L < U32) : ∀ (units : List (Nat × Bytes)),
    (∀ u ∈ units, u.1 = 4) → ∀ (done : Bytes), L = done.length + (annexB units).length →
    foldPairs (fun st c nx => patch4 st (c.pos - 4) (put32 (lenOf L c nx true % U32))) (done ++ annexB units)
        (expectedSCs done.length units) = done ++ lenPrefixed (units.map (·.2))
  | [], _, _, _ => by simp [expectedSCs, foldPairs, lenPrefixed, annexB]
  | (k, m) :: rest, h4, done, hL => by
    obtain rfl : k = 4 := h4 (k, m) (List.mem_cons_self ..)
    have h4' := fun u hu => h4 u (List.mem_cons_of_mem _ hu)
    have hL' : L = done.length + 4 + m.length + (annexB rest).length := by
      simp only [hL, annexB, List.length_append, Nat.add_assoc]; rfl
    have hm : m.length < U32 := Nat.lt_of_le_of_lt (hL' ▸ Nat.le_add_right_of_le (Nat.le_add_left ..)) hlt
    have hp : patch4 (done ++ annexB ((4, m) :: rest)) done.length (put32 m.length) =
        (done ++ put32 m.length ++ m) ++ annexB rest := by
      simp [patch4, annexB, startCode]
    have hl3 : (done ++ put32 m.length ++ m).length = done.length + 4 + m.length := by
      simp only [List.length_append, put32_length]
    have ih := foldPairs_patch_annexB L hlt rest h4' (done ++ put32 m.length ++ m)
      (by rw [hl3]; exact hL')
    rw [hl3] at ih
    simp only [expectedSCs, foldPairs, lenOf_expectedSCs_head L done.length 4 m rest true hL' (fun _ => h4'),
      Nat.mod_eq_of_lt hm, Nat.add_sub_cancel, hp, ih]
    simp [lenPrefixed]

theorem isBytes_annexB : ∀ (units : List (Nat × Bytes)), UnitsOK units → IsBytes (annexB units)
  | [], _ => by simp [annexB, IsBytes]
  | (k, m) :: rest, h => by
    obtain ⟨hk, _, hb, _, _⟩ := h (k, m) (by simp)
    have hsc : IsBytes (startCode k) := fun b hb' => by
      rcases hk with rfl | rfl <;> simp [startCode] at hb' <;> omega
    exact (hsc.append hb).append (isBytes_annexB rest (UnitsOK.tail h))

theorem toSample_annexB (units : List (Nat × Bytes)) (h : UnitsOK units) (hb : UnitsBytes units)
    (hlen : (annexB units).length < U32) :
    toSample (annexB units) = lenPrefixed (units.map (·.2)) := by
  unfold toSample
  rw [scanWord_eq _ (isBytes_annexB units h), scanByte_annexB units h]
  simp only [List.range_eq_range']
  split
  · rename_i hm
    exact (foldl_naluLenAt (fun st c n => patch4 st (c.pos - 4) (put32 (n % U32))) _ true _ _ [] _ rfl).trans
      (foldPairs_patch_annexB _ hlen units (scLen_all_four_of_min units 0 4 h (Nat.le_refl 4) hm).2 [] (by simp))
  · exact (foldl_naluLenAt (fun out c n => out ++ put32 (n % U32) ++ slice (annexB units) c.pos (c.pos + n))
      _ false _ _ [] _ rfl).trans (foldPairs_copy_annexB _ hlen units h [] [] rfl)

def scPos (off : Nat) (units : List (Nat × Bytes)) : List Nat := (expectedSCs off units).map (fun sc => sc.pos - 3)

theorem scPos_nil (off : Nat) : scPos off [] = [] := rfl

theorem scPos_cons (off k : Nat) (m : Bytes) (rest : List (Nat × Bytes)) :
    scPos off ((k, m) :: rest) = (off + k - 3) :: scPos (off + k + m.length) rest := by
  simp [scPos, expectedSCs]

theorem scPositions_annexB (units : List (Nat × Bytes)) (h : UnitsOK units) :
    scPositions (annexB units) 0 = scPos 0 units := by
  rw [scPositions, scPos, ← scanByte_annexB units h, scanByte, scanFrom, List.map_filterMap,
    ← List.filterMap_eq_filter]
  congr 1
  funext i
  cases h : isSC (annexB units) i <;> simp [Option.guard, h]

theorem slice_trimEnd_unit (s pre0 nprev R : Bytes) (k : Nat) (hs : s = pre0 ++ (nprev ++ (startCode k ++ R)))
    (hk : k = 3 ∨ k = 4) (hne : nprev ≠ []) (hl : nprev.getLast? ≠ some 0) :
    slice s pre0.length (trimEnd s pre0.length (pre0.length + nprev.length + k - 3)) = nprev := by
  -- a 4-byte start code is a zero in front of the 3-byte one
  have ht := trimEnd_zeros s pre0 nprev hne hl (k - 3) (startCode 3 ++ R) (by rcases hk with rfl | rfl <;> exact hs)
  rw [show pre0.length + nprev.length + k - 3 = pre0.length + nprev.length + (k - 3) by omega, ht]
  exact slice_mid s pre0 nprev _ hs

theorem unitsAt_annexB (s : Bytes) : ∀ (rest : List (Nat × Bytes)), UnitsOK rest →
    ∀ (pre0 nprev : Bytes), s = pre0 ++ (nprev ++ annexB rest) → nprev ≠ [] → nprev.getLast? ≠ some 0 →
    unitsAt s pre0.length (scPos (pre0.length + nprev.length) rest) = nprev :: rest.map (·.2)
  | [], _, pre0, nprev, hs, _, _ => by
    rw [scPos_nil, unitsAt, show s.length = pre0.length + nprev.length by simp [hs, annexB],
      slice_mid s pre0 nprev _ hs]; rfl
  | (k, m) :: rest, h, pre0, nprev, hs, hne, hl => by
    obtain ⟨hk, hmne, _, _, hml⟩ := h (k, m) (List.mem_cons_self ..)
    have hk3 : 3 ≤ k := by omega
    rw [annexB, List.append_assoc] at hs
    have ih := unitsAt_annexB s rest (UnitsOK.tail h) (pre0 ++ nprev ++ startCode k) m (by simp [hs]) hmne hml
    simp only [List.length_append, startCode_length k hk] at ih
    rw [scPos_cons, unitsAt, slice_trimEnd_unit s pre0 nprev _ k hs hk hne hl, List.map_cons,
      Nat.sub_add_cancel (Nat.le_add_left_of_le hk3), ih]

theorem extractNalus_annexB (units : List (Nat × Bytes)) (h : UnitsOK units) :
    extractNalus (annexB units) = units.map (·.2) := by
  rw [extractNalus_eq_unitsOf, scPositions_annexB units h]
  cases units with
  | nil => rfl
  | cons u rest =>
    obtain ⟨k, m⟩ := u
    obtain ⟨hk, hmne, _, _, hml⟩ := h (k, m) (List.mem_cons_self ..)
    have := unitsAt_annexB (annexB ((k, m) :: rest)) rest (UnitsOK.tail h) (startCode k) m
      (by rw [annexB, List.append_assoc]) hmne hml
    rw [startCode_length k hk] at this
    rw [scPos_cons, unitsOf, Nat.zero_add, show k - 3 + 3 = k by rcases hk with rfl | rfl <;> omega, this]; rfl

/-- parameter sets before the first video unit, as (type, unit), stream order -/
def psSpecU (c : Codec) (isPS : Nat → Bool) (units : List (Nat × Bytes)) : List (Nat × Bytes) :=
  psSpec c isPS (units.map (·.2))

-- `hp`, `hv` below name the first byte `n.headD 0`, as the specifications do; simp is to leave it as it is (its normal
-- form is `n.head?.getD 0`)
attribute [-simp] List.headD_eq_head?_getD

theorem psSpecV_eq_psSpec (c : Codec) (isPS : Nat → Bool) (hd : ∀ t, isPS t = true → c.isVideo t = false) :
    ∀ ns, psSpecV c isPS ns = psSpec c isPS ns
  | [] => rfl
  | n :: rest => by
    simp only [psSpecV, psSpec, psSpecV_eq_psSpec c isPS hd rest]
    by_cases hp : isPS (c.typeOf (n.headD 0)) = true
    · simp [hp, hd _ hp]
    · by_cases hv : c.isVideo (c.typeOf (n.headD 0)) = true <;> simp [hp, hv]

/-- Against `psSpecU` the statement is false for arbitrary `c`, `isPS`: the Go loop tests "video" before keeping a unit,
    `psSpec` tests `isPS` first.  With a type that is both (c = ⟨id, fun _ => true⟩, isPS = fun _ => true) and
    units = [(3, [1])] the reader returns [] and `psSpecU` gives [(1, [1])]. -/
theorem paramSetsFromByteStream_annexB_false :
    ¬ ∀ (c : Codec) (isPS : Nat → Bool) (units : List (Nat × Bytes)), UnitsOK units →
      paramSetsFromByteStream c isPS (annexB units) = psSpecU c isPS units := by
  intro hall
  have hok : UnitsOK [(3, [1])] := by
    intro u hu
    simp only [List.mem_singleton] at hu
    subst hu
    simp [WFNalu, IsBytes, EmulationFree]
  have := hall ⟨fun h => h, fun _ => true⟩ (fun _ => true) [(3, [1])] hok
  revert this
  decide

theorem paramSetsFromByteStream_annexB_partial (c : Codec) (isPS : Nat → Bool)
    (hd : ∀ t, isPS t = true → c.isVideo t = false) (units : List (Nat × Bytes)) (h : UnitsOK units) :
    paramSetsFromByteStream c isPS (annexB units) = psSpecU c isPS units := by
  rw [paramSetsFromByteStream_eq, extractNalus_annexB units h, psSpecV_eq_psSpec c isPS hd]; rfl

theorem extractOfType_annexB (c : Codec) (t : Nat) (stop : Bool) (units : List (Nat × Bytes))
    (h : UnitsOK units) :
    extractOfType c (annexB units) t stop = ofTypeSpec c t stop (units.map (·.2)) := by
  rw [extractOfType_eq, extractNalus_annexB units h]

theorem firstVideoNalu_annexB (c : Codec) (units : List (Nat × Bytes)) (h : UnitsOK units) :
    firstVideoNalu c (annexB units) = (units.map (·.2)).find? (fun n => c.isVideo (c.typeOf (n.headD 0))) := by
  rw [firstVideoNalu_eq, extractNalus_annexB units h]

end Mp4ff.Nalu
