import Mp4ff.Model.AvcPps
import Mp4ff.Lemmas.BitSynRoundtrip
import Mp4ff.Lemmas.BitSynTotal
import Mp4ff.Lemmas.Basics
/-!
C15/C16 for the AVC picture parameter set (`AvcPps.parsePps`): totality on every byte string with a fuel bound linear
in the input length, and the serialise/parse round trip (with and without the optional tail).
-/
namespace Mp4ff.AvcPps
open Mp4ff.BitSyn Mp4ff.Bits

theorem depthL_pre (cap : Nat) : depthL (pre cap) ≤ cap + 23 := by
  unfold pre
  apply depthL_le_of_add
  simp only [↓depthL_add_le_leaf, ↓depthL_add_le_cond, ↓depthL_add_le_rep, ↓depthL_add_le_nil]
  omega

theorem depthL_tail (chroma : Option Nat) : depthL (tail chroma) = 87 := by
  simp only [tail, depthL, bodyDepth, repCount]
  decide

theorem fuelNeedL_pre (cap : Nat) : fuelNeedL (pre cap) = 11 * cap + 88 := by
  simp only [pre, fuelNeedL, fuelNeed]
  omega

theorem fuelNeedL_tail (chroma : Option Nat) : fuelNeedL (tail chroma) = 3920 := by
  simp only [tail, fuelNeedL, fuelNeed]

theorem maxEntriesL_pre (cap : Nat) : maxEntriesL (pre cap) = 3 * cap + 44 := by
  simp only [pre, maxEntriesL, maxEntries]
  omega

theorem maxEntriesL_tail (chroma : Option Nat) : maxEntriesL (tail chroma) = 784 := by
  simp only [tail, maxEntriesL, maxEntries]

/-- with the depth of the two syntaxes as fuel `parsePps` answers, and an answer `.ok` holds a bounded list of values -/
theorem parsePps_spec (f : Nat) (spsMap : List (Nat × Nat)) (nalu : Bytes) (hf : capOf nalu + 87 ≤ f) :
    parsePps f spsMap nalu ≠ .fuel ∧
      ∀ t more, parsePps f spsMap nalu = .ok t more → t.length ≤ 3 * capOf nalu + 828 := by
  obtain ⟨t1, e1, hp1, hl1⟩ := parse_total_depth f (pre (capOf nalu)) [] { rest := nalu }
    (by have := depthL_pre (capOf nalu); omega)
  obtain ⟨t2, e3, hp2, hl2⟩ := parse_total_depth f (tail (lookupChroma spsMap t1)) t1 (Sei.moreRbspData e1).1
    (by rw [depthL_tail]; omega)
  rw [maxEntriesL_pre, List.length_nil, Nat.zero_add] at hl1
  rw [maxEntriesL_tail] at hl2
  unfold parsePps
  -- with or without the tail, every branch behind the syntaxes is `.err` or `.ok` with the values parsed
  cases hm : (Sei.moreRbspData e1).2 <;> simp only [hp1, hm, hp2, if_true, if_false, Bool.false_eq_true]
  all_goals
    constructor
    · intro h
      cases (ite_ne_left (ite_ne_left (ite_ne_left h nofun).2 nofun).2 nofun).2
    · intro t' more h
      cases (ite_ne_left (ite_ne_left (ite_ne_left h nofun).2 nofun).2 nofun).2
      omega

/-- C16 under a looser bound than `parsePps_spec` needs -/
theorem pps_total (spsMap : List (Nat × Nat)) (nalu : Bytes) (f : Nat) (hf : 11 * capOf nalu + 2000 ≤ f) :
    parsePps f spsMap nalu ≠ .fuel :=
  (parsePps_spec f spsMap nalu (by omega)).1

theorem pps_total_driver (spsMap : List (Nat × Nat)) (nalu : Bytes) :
    parsePps (fuel nalu) spsMap nalu ≠ .fuel :=
  (parsePps_spec (fuel nalu) spsMap nalu (by simp only [capOf, fuel]; omega)).1

theorem pps_total_length (spsMap : List (Nat × Nat)) (nalu : Bytes) (f : Nat) (hf : capOf nalu + 87 ≤ f) :
    ∀ t more, parsePps f spsMap nalu = .ok t more → t.length ≤ 3 * capOf nalu + 828 :=
  (parsePps_spec f spsMap nalu hf).2

/-- the tail syntax starts with a flag, so its serialisation has at least one bit -/
theorem opsBits_tail_ne_nil {f : Nat} {chroma : Option Nat} {acc src : Trace} {os a s}
    (h : ops f (tail chroma) acc src = some (os, a, s)) : opsBits os ≠ [] := by
  match f with
  | 0 => simp [ops] at h
  | f + 1 =>
    unfold tail at h
    obtain ⟨v, s0, o, _, _, _, rfl⟩ := ops_leaf_inv rfl h
    simp [Syn.op, opsBits, Op.bits, Op.fields, fieldBits, lowBits]

def TailOK (f : Nat) (chroma : Option Nat) (tr1 tr2 : Trace) : Prop :=
  (∃ os a, ops f (tail chroma) tr1 tr2 = some (os, a, []) ∧ ∀ op ∈ os, op.OK) ∧ stopped (tr1 ++ tr2) = false

theorem pps_roundtrip (f : Nat) (spsMap : List (Nat × Nat)) (tr1 : Trace) (tr2 : Option Trace) (nalu : Bytes)
    (h1 : TraceOK f (pre (capOf nalu)) tr1)
    (h2 : ∀ t2, tr2 = some t2 → TailOK f (lookupChroma spsMap tr1) tr1 t2)
    (hs : serializePps f (capOf nalu) (lookupChroma spsMap tr1) tr1 tr2 = some nalu) :
    parsePps f spsMap nalu = .ok (tr1 ++ tr2.getD []) tr2.isSome := by
  obtain ⟨os1, hops1, hok1⟩ := h1.ops
  cases tr2 with
  | none =>
    -- without a tail `serializePps` is the generic serialiser of the prefix syntax
    have hs' : serialize f (pre (capOf nalu)) tr1 = some nalu := by
      simp only [serializePps, hops1] at hs
      simp only [serialize, hops1, hs]
    obtain ⟨e1, P1, m, he⟩ := parse_serialized h1 hs'
    obtain ⟨ht1, ht2⟩ := Sei.readTrailing_spec e1 P1 m he.inv he.abs
    unfold parsePps
    simp only [he.parsed, h1.2, moreRbspData_at_stop he.inv he.abs, Bool.false_eq_true, if_false, ht1, ht2, ne_eq,
      not_true_eq_false, or_self, Option.getD_none, List.append_nil, Option.isSome_none]
  | some t2 =>
    obtain ⟨⟨os2, a2, hops2, hok2⟩, hst2⟩ := h2 t2 rfl
    obtain rfl : a2 = tr1 ++ t2 := ops_acc_eq hops2
    simp only [serializePps, hops1, hops2, Option.some.injEq] at hs
    obtain ⟨P, m, hinv, habs⟩ := ER.init_written (os1 ++ os2) (List.forall_mem_append.2 ⟨hok1, hok2⟩)
    rw [hs] at hinv habs
    rw [opsBits_append, List.append_assoc] at habs
    obtain ⟨e1, P1, p1, i1, a1, _⟩ := parse_ops f (pre (capOf nalu)) [] tr1 os1 tr1 [] _ P _ hops1 h1.2 hok1 hinv habs
    obtain ⟨b, L, hb⟩ := List.exists_cons_of_ne_nil (opsBits_tail_ne_nil hops2)
    have a1' : e1.abs P1 = b :: (L ++ true :: List.replicate m false) := by rw [a1, hb]; rfl
    have hm := Sei.moreRbspData_spec e1 P1 b _ i1 a1'
    have hmore : (if b then (L ++ true :: List.replicate m false).any id else true) = true := by
      cases b <;> simp
    rw [hmore] at hm
    obtain ⟨e3, P3, p3, i3, a3, _⟩ := parse_ops f (tail (lookupChroma spsMap tr1)) tr1 t2 os2 (tr1 ++ t2) [] e1 P1 _
      hops2 hst2 hok2 i1 a1
    obtain ⟨ht1, ht2⟩ := Sei.readTrailing_spec e3 P3 m i3 a3
    unfold parsePps
    simp only [p1, h1.2, hm, Bool.false_eq_true, if_false, if_true, p3, hst2, ht1, ht2, ne_eq, not_true_eq_false,
      or_self, Option.getD_some, Option.isSome_some]

end Mp4ff.AvcPps
