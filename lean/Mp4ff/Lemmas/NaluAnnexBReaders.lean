import Mp4ff.Lemmas.NaluAnnexBScan
/-! The Annex B readers on any input.  `ExtractNalusFromByteStream`, `ExtractNalusOfTypeFromByteStream`,
`GetFirstAVCVideoNALUFromByteStream` and `GetParameterSetsFromByteStream` run the same index loop; it only acts at start
codes, and what it hands to its body there is a unit of `extractNalus`.  So each reader is a fold over `extractNalus s`,
whatever `s` is. -/
namespace Mp4ff.Nalu

/-- positions `i` (of the 00 00 01 window) visited by the loops from index `i0` -/
def scPositions (s : Bytes) (i0 : Nat) : List Nat := (List.range' i0 (s.length - 3 - i0)).filter (isSC s)

theorem scPositions_step (s : Bytes) (i : Nat) :
    scPositions s i = if i < s.length - 3 then
      (if isSC s i then i :: scPositions s (i + 1) else scPositions s (i + 1)) else [] := by
  unfold scPositions
  by_cases h : i < s.length - 3
  · rw [if_pos h, range'_sub_of_lt h, List.filter_cons]
  · rw [if_neg h, Nat.sub_eq_zero_of_le (Nat.not_lt.1 h)]; rfl

/-- The index loop the Annex B readers share.  `cur` is where the current unit starts (0: none yet).  At a start code
    the body `close` is given the first byte and the bytes of the unit that ends there, then `opn` the first byte of the
    unit that starts behind it; either may end the loop with a result.  At the end of the input the last unit is closed;
    `noStart` is the result if there was no start code at all. -/
def scanLoop {σ ρ : Type} (s : Bytes) (opn : σ → Nat → ρ ⊕ σ) (close : σ → Nat → Bytes → ρ ⊕ σ) (done noStart : σ → ρ) :
    Nat → Nat → Nat → σ → ρ
  | 0, _, _, st => done st
  | fuel + 1, i, cur, st =>
    if i < s.length - 3 then
      if isSC s i then
        Sum.elim id
          (fun st => Sum.elim id (scanLoop s opn close done noStart fuel (i + 1) (i + 3)) (opn st (byteAt s (i + 3))))
          (if cur > 0 then close st (byteAt s cur) (slice s cur (trimEnd s cur i)) else .inr st)
      else scanLoop s opn close done noStart fuel (i + 1) cur st
    else if cur > 0 then Sum.elim id done (close st (byteAt s cur) (slice s cur s.length)) else noStart st

theorem firstVideoNalu_go_eq (c : Codec) (s : Bytes) : ∀ fuel i cur,
    firstVideoNalu.go c s fuel i cur = scanLoop s (fun st _ => .inr st)
      (fun _ hdr u => if c.isVideo (c.typeOf hdr) then .inl (some u) else .inr ()) (fun _ => none) (fun _ => none)
      fuel i cur ()
  | 0, _, _ => rfl
  | fuel + 1, i, cur => by
    simp only [firstVideoNalu.go, scanLoop, firstVideoNalu_go_eq c s fuel, apply_ite (Sum.elim _ _), Sum.elim_inl,
      Sum.elim_inr, id]
    by_cases hc : cur = 0 <;> simp [hc, Nat.pos_iff_ne_zero]

/-- `ExtractNalusOfTypeFromByteStream` (avc/annexb.go, hevc/annexb.go) where a unit starts: with `stopAtVideo` a video
    unit ends the scan -/
def extractOfTypeOpen (c : Codec) (stop : Bool) (acc : List Bytes) (hdr : Nat) : List Bytes ⊕ List Bytes :=
  if stop ∧ c.isVideo (c.typeOf hdr) then .inl acc else .inr acc

/-- the same function where a unit ends, at the next start code or at the end of the data: kept if of type `t` -/
def extractOfTypeClose (c : Codec) (t : Nat) (acc : List Bytes) (hdr : Nat) (u : Bytes) : List Bytes ⊕ List Bytes :=
  .inr (if c.typeOf hdr = t then acc ++ [u] else acc)

theorem extractOfType_go_eq (c : Codec) (s : Bytes) (t : Nat) (stop : Bool) : ∀ fuel i cur acc,
    extractOfType.go c s t stop fuel i cur acc =
      scanLoop s (extractOfTypeOpen c stop) (extractOfTypeClose c t) id (fun _ => []) fuel i cur acc
  | 0, _, _, _ => rfl
  | fuel + 1, i, cur, acc => by
    simp only [extractOfType.go, scanLoop, extractOfType_go_eq c s t stop fuel, extractOfTypeOpen, extractOfTypeClose,
      apply_ite (Sum.elim _ _), Sum.elim_inl, Sum.elim_inr, id]
    by_cases hi : i < s.length - 3
    -- simp is kept from rewriting `byteAt`, a `getD`, into `getElem?` form: slow to check, and not needed
    · have hi' := Nat.add_lt_of_lt_sub hi
      by_cases hc : cur = 0 <;> simp [hc, hi, hi', Nat.pos_iff_ne_zero, -List.getD_eq_getElem?_getD]
    · by_cases hc : cur = 0 <;> simp [hc, hi, Nat.pos_iff_ne_zero, -List.getD_eq_getElem?_getD]

/-- `GetParameterSetsFromByteStream` (avc/annexb.go, hevc/annexb.go) where a unit starts: the `break` at a video unit -/
def paramSetsBSOpen (c : Codec) (acc : List (Nat × Bytes)) (hdr : Nat) : List (Nat × Bytes) ⊕ List (Nat × Bytes) :=
  if c.isVideo (c.typeOf hdr) then .inl acc else .inr acc

/-- its `switch` where a unit ends: a unit of a parameter-set type is kept, with its type -/
def paramSetsBSClose (c : Codec) (isPS : Nat → Bool) (acc : List (Nat × Bytes)) (hdr : Nat) (u : Bytes) :
    List (Nat × Bytes) ⊕ List (Nat × Bytes) :=
  .inr (if isPS (c.typeOf hdr) then acc ++ [(c.typeOf hdr, u)] else acc)

theorem paramSetsFromByteStream_go_eq (c : Codec) (isPS : Nat → Bool) (s : Bytes) : ∀ fuel i cur acc,
    paramSetsFromByteStream.go c isPS s fuel i cur acc =
      scanLoop s (paramSetsBSOpen c) (paramSetsBSClose c isPS) id id fuel i cur acc
  | 0, _, _, _ => rfl
  | fuel + 1, i, cur, acc => by
    simp only [paramSetsFromByteStream.go, scanLoop, paramSetsFromByteStream_go_eq c isPS s fuel, paramSetsBSOpen,
      paramSetsBSClose, apply_ite (Sum.elim _ _), Sum.elim_inl, Sum.elim_inr, id]
    by_cases hc : cur = 0 <;> simp [hc, Nat.pos_iff_ne_zero, -List.getD_eq_getElem?_getD]

/-- the unit that starts at `cur` and the units behind it, `is` being the start codes behind `cur` -/
def unitsAt (s : Bytes) : Nat → List Nat → List Bytes
  | cur, [] => [slice s cur s.length]
  | cur, i :: is => slice s cur (trimEnd s cur i) :: unitsAt s (i + 3) is

/-- the units behind the start codes `is` -/
def unitsOf (s : Bytes) : List Nat → List Bytes
  | [] => []
  | i :: is => unitsAt s (i + 3) is

/-- start codes do not overlap -/
theorem isSC_next (s : Bytes) (i : Nat) (h : isSC s i = true) (j : Nat) (h1 : i + 1 ≤ j) (h2 : j < i + 3) :
    isSC s j = false := by
  have hb := ((isSC_iff s i).1 h).2.2
  obtain rfl | rfl : j = i + 1 ∨ j = i + 2 := by omega
  · rw [isSC, show i + 1 + 1 = i + 2 from rfl, hb]; simp
  · rw [isSC, hb]; simp

theorem slice_headD (s : Bytes) (a b : Nat) (h : a < b ∨ s.length ≤ a) : (slice s a b).headD 0 = byteAt s a := by
  rw [List.headD_eq_head?_getD, slice, List.head?_take, List.head?_drop, byteAt, List.getD_eq_getElem?_getD]
  rcases h with h | h
  · rw [if_neg (by omega)]
  · rw [List.getElem?_eq_none h]; split <;> rfl

theorem trimEnd_gt (s : Bytes) (cur : Nat) : ∀ e, cur < e → cur < trimEnd s cur e
  | e + 1, h => by
    rw [trimEnd]
    split
    · rename_i hc; exact trimEnd_gt s cur e hc.1
    · exact h

/-- the byte the readers test is the first byte of the unit they hand out, also when the unit is empty (a start code
    right behind a start code: the byte is the 00 of the second) -/
theorem slice_trimEnd_headD (s : Bytes) (cur i : Nat) (hle : cur ≤ i) (hsc : isSC s i = true) :
    (slice s cur (trimEnd s cur i)).headD 0 = byteAt s cur := by
  by_cases h : cur < i
  · exact slice_headD s _ _ (.inl (trimEnd_gt s cur i h))
  · obtain rfl : cur = i := by omega
    have e : trimEnd s cur cur = cur := by
      cases cur with
      | zero => rfl
      | succ n => rw [trimEnd, if_neg (by omega)]
    rw [e, ((isSC_iff s cur).1 hsc).1, slice, Nat.sub_self, List.take_zero]; rfl

theorem sumElim_bind {α β γ : Type} (F : β → γ) (G : α → γ ⊕ β) (x : γ ⊕ α) :
    Sum.elim id F (Sum.elim Sum.inl G x) = Sum.elim id (fun a => Sum.elim id F (G a)) x := by
  cases x <;> rfl

section
variable {σ ρ : Type} (s : Bytes) (opn : σ → Nat → ρ ⊕ σ) (close : σ → Nat → Bytes → ρ ⊕ σ) (done noStart : σ → ρ)

/-- what the two bodies do to one unit -/
def unitStep (st : σ) (u : Bytes) : ρ ⊕ σ := Sum.elim Sum.inl (fun st => close st (u.headD 0) u) (opn st (u.headD 0))

/-- opening the unit at `cur` and running the loop from `i` is a fold over the units from `cur` on; no start code lies
    in `[i, cur)` because start codes do not overlap -/
theorem scanLoop_unitsAt : ∀ (fuel i cur : Nat) (st : σ), s.length - 3 - i + 1 ≤ fuel → 0 < cur →
    (∀ j, i ≤ j → j < cur → isSC s j = false) →
    Sum.elim id (scanLoop s opn close done noStart fuel i cur) (opn st (byteAt s cur)) =
      unitFold (unitStep opn close) done (unitsAt s cur (scPositions s i)) st
  | 0, _, _, _, hf, _, _ => nomatch hf
  | fuel + 1, i, cur, st, hf, hc, hj => by
    rw [scPositions_step]
    by_cases hi : i < s.length - 3
    · rw [if_pos hi]
      have hf' : s.length - 3 - (i + 1) + 1 ≤ fuel := by omega
      by_cases hsc : isSC s i = true
      · have hle : cur ≤ i := Nat.le_of_not_lt fun h => by simp [hj i (Nat.le_refl i) h] at hsc
        have ih := fun st => scanLoop_unitsAt fuel (i + 1) (i + 3) st hf' (Nat.succ_pos _) (isSC_next s i hsc)
        rw [if_pos hsc, unitsAt, unitFold, unitStep, slice_trimEnd_headD s cur i hle hsc, sumElim_bind]
        congr 1; funext st
        rw [scanLoop, if_pos hi, if_pos hsc, if_pos hc]
        congr 1; funext st
        exact ih st
      · rw [if_neg hsc, ← scanLoop_unitsAt fuel (i + 1) cur st hf' hc fun j h1 => hj j (Nat.le_of_succ_le h1)]
        congr 1; funext st
        rw [scanLoop, if_pos hi, if_neg hsc]
    · rw [if_neg hi, unitsAt, unitFold, unitStep, sumElim_bind,
        slice_headD s cur _ (Nat.lt_or_ge cur s.length)]
      congr 1; funext st
      rw [scanLoop, if_neg hi, if_pos hc]
      rfl

theorem scanLoop_unitsOf (st : σ) (h0 : noStart st = done st) : ∀ (fuel i : Nat), s.length - 3 - i + 1 ≤ fuel →
    scanLoop s opn close done noStart fuel i 0 st = unitFold (unitStep opn close) done (unitsOf s (scPositions s i)) st
  | 0, _, hf => nomatch hf
  | fuel + 1, i, hf => by
    rw [scanLoop, scPositions_step]
    by_cases hi : i < s.length - 3
    · have hf' := Nat.le_trans (Nat.sub_succ_lt_self _ _ hi) (Nat.le_of_succ_le_succ hf)
      rw [if_pos hi, if_pos hi]
      by_cases hsc : isSC s i = true
      · rw [if_pos hsc, if_pos hsc, if_neg (Nat.lt_irrefl 0), unitsOf, Sum.elim_inr]
        exact scanLoop_unitsAt s opn close done noStart fuel (i + 1) (i + 3) st hf' (Nat.succ_pos _)
          (isSC_next s i hsc)
      · rw [if_neg hsc, if_neg hsc]; exact scanLoop_unitsOf st h0 fuel (i + 1) hf'
    · rw [if_neg hi, if_neg hi, if_neg (Nat.lt_irrefl 0), h0]; rfl
end

def extractFinish (s : Bytes) (r : List (Nat × Nat) × Nat) : List Bytes :=
  if r.2 = 0 then [] else (r.1 ++ [(r.2, s.length)]).map fun (a, b) => slice s a b

theorem extractLoop_eq (s : Bytes) : ∀ (fuel i cur : Nat) (acc : List (Nat × Nat)), s.length - 3 - i + 1 ≤ fuel →
    extractFinish s (extractLoop s (s.length - 3) fuel i cur acc) =
      scanLoop s (fun st _ => .inr st) (fun st _ u => .inr (st ++ [u])) id (fun _ => []) fuel i cur
        (acc.map fun (a, b) => slice s a b)
  | 0, _, _, _, hf => nomatch hf
  | fuel + 1, i, cur, acc, hf => by
    rw [extractLoop, scanLoop]
    by_cases hi : i < s.length - 3
    · have hf' := Nat.le_trans (Nat.sub_succ_lt_self _ _ hi) (Nat.le_of_succ_le_succ hf)
      rw [if_pos hi, if_pos hi]
      by_cases hsc : isSC s i = true
      · rw [if_pos hsc, if_pos hsc, extractLoop_eq s fuel (i + 1) _ _ hf']
        by_cases hc : cur > 0 <;> simp [hc]
      · rw [if_neg hsc, if_neg hsc]; exact extractLoop_eq s fuel (i + 1) cur acc hf'
    · rw [if_neg hi, if_neg hi, extractFinish]
      by_cases hc : cur = 0 <;> simp [hc, Nat.pos_iff_ne_zero]

theorem extractNalus_eq_unitsOf (s : Bytes) : extractNalus s = unitsOf s (scPositions s 0) := by
  -- by definition `extractNalus s` is `extractFinish s` of the loop run with fuel `s.length + 1`
  refine (extractLoop_eq s (s.length + 1) 0 0 [] (by omega)).trans ?_
  rw [List.map_nil, scanLoop_unitsOf s _ _ _ _ [] (by rfl) _ 0 (by omega)]
  suffices ∀ (l : List Bytes) acc, unitFold (unitStep (fun st _ => .inr st) fun st _ u => .inr (st ++ [u])) id l acc
      = acc ++ l from this _ []
  intro l
  induction l with
  | nil => intro acc; simp [unitFold]
  | cons u l ih => intro acc; simp [unitFold, unitStep, ih]

-- The bodies and the specifications name a unit's first byte `u.headD 0`.  From here on simp leaves that as it is: its
-- normal form `u.head?.getD 0` is not what the case hypotheses (`hv`, `hp`) given to it speak of.
attribute [-simp] List.headD_eq_head?_getD

theorem firstVideoNalu_eq (c : Codec) (s : Bytes) :
    firstVideoNalu c s = (extractNalus s).find? (fun n => c.isVideo (c.typeOf (n.headD 0))) := by
  rw [firstVideoNalu, firstVideoNalu_go_eq, scanLoop_unitsOf s _ _ _ _ () (by rfl) _ 0 (by omega),
    extractNalus_eq_unitsOf]
  induction unitsOf s (scPositions s 0) with
  | nil => rfl
  | cons u l ih =>
    by_cases hv : c.isVideo (c.typeOf (u.headD 0)) = true <;>
      simp [unitFold, unitStep, hv, ih]

/-- units of type `t`; with `stop`, only those before the first video unit -/
def ofTypeSpec (c : Codec) (t : Nat) (stop : Bool) : List Bytes → List Bytes
  | [] => []
  | n :: rest =>
    let ty := c.typeOf (n.headD 0)
    if stop ∧ c.isVideo ty then []
    else if ty = t then n :: ofTypeSpec c t stop rest else ofTypeSpec c t stop rest

theorem extractOfType_eq (c : Codec) (s : Bytes) (t : Nat) (stop : Bool) :
    extractOfType c s t stop = ofTypeSpec c t stop (extractNalus s) := by
  rw [extractOfType, extractOfType_go_eq, scanLoop_unitsOf s _ _ _ _ [] (by rfl) _ 0 (by omega),
    extractNalus_eq_unitsOf]
  suffices ∀ (l : List Bytes) acc, unitFold (unitStep (extractOfTypeOpen c stop) (extractOfTypeClose c t)) id l acc =
      acc ++ ofTypeSpec c t stop l from this _ []
  intro l
  induction l with
  | nil => intro acc; simp [unitFold, ofTypeSpec]
  | cons u l ih =>
    intro acc
    by_cases hv : stop = true ∧ c.isVideo (c.typeOf (u.headD 0)) = true
    · simp [unitFold, unitStep, extractOfTypeOpen, ofTypeSpec, hv]
    · simp only [unitFold, unitStep, extractOfTypeOpen, extractOfTypeClose, ofTypeSpec, hv, if_false, Sum.elim_inr, ih]
      split <;> simp

/-- like `psSpec`, but the video test comes first (this is what the Go loop does) -/
def psSpecV (c : Codec) (isPS : Nat → Bool) : List Bytes → List (Nat × Bytes)
  | [] => []
  | n :: rest =>
    let t := c.typeOf (n.headD 0)
    if c.isVideo t then [] else (if isPS t then [(t, n)] else []) ++ psSpecV c isPS rest

theorem paramSetsFromByteStream_eq (c : Codec) (isPS : Nat → Bool) (s : Bytes) :
    paramSetsFromByteStream c isPS s = psSpecV c isPS (extractNalus s) := by
  rw [paramSetsFromByteStream, paramSetsFromByteStream_go_eq, scanLoop_unitsOf s _ _ _ _ [] (by rfl) _ 0 (by omega),
    extractNalus_eq_unitsOf]
  suffices ∀ (l : List Bytes) acc, unitFold (unitStep (paramSetsBSOpen c) (paramSetsBSClose c isPS)) id l acc =
      acc ++ psSpecV c isPS l from this _ []
  intro l
  induction l with
  | nil => intro acc; simp [unitFold, psSpecV]
  | cons u l ih =>
    intro acc
    by_cases hv : c.isVideo (c.typeOf (u.headD 0)) = true <;> by_cases hp : isPS (c.typeOf (u.headD 0)) = true <;>
      simp [unitFold, unitStep, paramSetsBSOpen, paramSetsBSClose, psSpecV, hv, hp, ih]

end Mp4ff.Nalu
