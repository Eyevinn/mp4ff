import Mp4ff.Lemmas.BitSynRoundtrip
import Mp4ff.Lemmas.BitSynTotal
import Mp4ff.Lemmas.PictureSize
/-!
C15/C16 for the AVC sequence parameter set: round trip, totality with constant bounds, and the picture size of every
valid SPS (what the syntax guarantees about separate_colour_plane_flag and frame_mbs_only_flag).
-/
namespace Mp4ff.AvcSps
open Mp4ff.BitSyn Mp4ff.Bits

/-- in a trace of the SPS syntax the colour-plane flag is only coded (hence only 1) for chroma_format_idc 3 in a
    high profile -/
theorem ops_sps_separate_colour_plane (so : Bool) (f : Nat) (tr : Trace) (os : List Op) (a : Trace)
    (h : ops f (sps so) [] tr = some (os, a, [])) :
    a.get "separate_colour_plane_flag" = 1 → chromaFormat a = 3 := by
  simp only [sps] at h
  -- the five fields in front of the high-profile block
  obtain ⟨_, _, _, _, h⟩ := ops_leaf_next rfl h
  obtain ⟨_, _, _, _, h⟩ := ops_leaf_next rfl h
  obtain ⟨_, _, _, _, h⟩ := ops_leaf_next rfl h
  obtain ⟨_, _, _, _, h⟩ := ops_leaf_next rfl h
  obtain ⟨f, _, _, _, h⟩ := ops_leaf_next rfl h
  -- the block, then the rest of the syntax, which codes none of the three names
  obtain ⟨_, a1, _, _, hb, hr, _⟩ := ops_cond_inv h
  have er := ops_get_stable ["separate_colour_plane_flag", "chroma_format_idc", "profile_idc"] hr
    (by cases so <;> decide)
  unfold chromaFormat Trace.nat
  rw [er _ (.head _), er _ (.tail _ (.head _)), er _ (.tail _ (.tail _ (.head _)))]
  rcases hb with ⟨hp, hb⟩ | ⟨_, _, rfl, _⟩
  · unfold Trace.nat at hp
    rw [ops_get_stable ["profile_idc"] hb (by decide) _ (.head _), if_pos hp]
    obtain ⟨f, c, _, _, hb⟩ := ops_leaf_next rfl hb
    obtain ⟨_, a2, _, _, hc, hb, _⟩ := ops_cond_inv hb
    have eb := ops_get_stable ["separate_colour_plane_flag", "chroma_format_idc"] hb (by decide)
    rw [eb _ (.head _), eb _ (.tail _ (.head _))]
    rcases hc with ⟨h3, hc⟩ | ⟨_, _, rfl, _⟩
    · rw [ops_get_stable ["chroma_format_idc"] hc (by decide) _ (.head _), Trace.get_snoc_same]
      intro _
      unfold Trace.nat at h3
      rw [Trace.get_snoc_same] at h3
      simpa using h3
    · simp [Trace.get]
  · simp [Trace.get]

theorem sps_roundtrip (signedOffsets : Bool) (f : Nat) (tr : Trace) (h : TraceOK f (sps signedOffsets) tr) :
    ∃ nalu e, serialize f (sps signedOffsets) tr = some nalu ∧
      parseNalu f (sps signedOffsets) nalu = some (tr, e) ∧ e.err = false := by
  obtain ⟨nalu, e, h1, h2, h3, _⟩ := serialize_parse f _ tr h
  exact ⟨nalu, e, h1, h2, h3⟩

theorem sps_total (signedOffsets : Bool) (nalu : Bytes) :
    ∃ t e, parseNalu (fuelNeedL (sps signedOffsets)) (sps signedOffsets) nalu = some (t, e) ∧
      t.length ≤ maxEntriesL (sps signedOffsets) ∧ maxEntriesL (sps signedOffsets) ≤ 2000 ∧
      fuelNeedL (sps signedOffsets) ≤ 6000 := by
  obtain ⟨t, e, h1, h2⟩ := parse_total (sps signedOffsets) (fuelNeedL (sps signedOffsets)) [] { rest := nalu }
    (Nat.le_refl _)
  refine ⟨t, e, h1, by simpa using h2, ?_, ?_⟩
  · cases signedOffsets <;> decide
  · cases signedOffsets <;> decide

/-- picture size for every valid SPS: the syntax rules out what `dims_eq_std_partial` has to assume -/
theorem dims_eq_std_sps (signedOffsets : Bool) (f : Nat) (tr : Trace) (h : TraceOK f (sps signedOffsets) tr)
    (hfit : CropFits tr) : dims tr = stdDims tr := by
  obtain ⟨os, hops, _⟩ := h.ops
  refine dims_eq_std_partial tr ?_ ?_ hfit
  · unfold Trace.nat
    rcases ops_get_flag "frame_mbs_only_flag" hops (by cases signedOffsets <;> decide) with h | h <;> rw [h] <;> decide
  · intro hs
    rw [ops_sps_separate_colour_plane _ _ _ _ _ hops hs]
    decide

end Mp4ff.AvcSps
