import Mp4ff.Model.Sei
import Mp4ff.Lemmas.BitsWriter
import Mp4ff.Lemmas.BitsReader
/-!
Typed SEI messages: serialise → decode round trips and `Size()`. SEI 144 and SEI 137 are big-endian byte fields. SEI 136
(time code) and SEI 1 (AVC picture timing) are bit-level and handled alike: the payload is a field list written into a
`FixedSliceWriter` of `Size()` bytes (`sliceWriter_spec`); each decoder `Reads` (Lemmas/BitsReader.lean) its record back
from the record's fields, one step per syntax element, the clocks of a message by `reads_loop`. The hours/minutes/seconds
part, which sei136.go and sei1_avc.go spell out twice each, is `Hms` here and is treated once (`readHms_spec`).
-/
namespace Mp4ff.Sei
open Mp4ff.Bits Mp4ff.Bits.Dec

theorem reads_flag (b : Bool) : Reads readFlagBR (lowBits 1 (flagBit b)) b := by
  intro r tail hr habs
  obtain ⟨r', e, i, a⟩ := reads_field (by cases b <;> decide) (by decide) hr habs
  refine ⟨r', ?_, i, a⟩
  simp only [readFlagBR, show r.read 1 = _ from e, i.err]
  cases b <;> simp [flagBit]

/-- a message of fields `ops` written with a `FixedSliceWriter` of `Size()` = their bits rounded up to bytes, and `extra`
    written behind them that may not fit any more: `size` bytes come out, and a reader on them sees the bits of `ops` first -/
theorem sliceWriter_spec {ops extra : List (Nat × Nat)} {size : Nat} {pl : Bytes}
    (hpl : pl = sliceWriterBytes size ((({} : BW).writeAll ops).writeAll extra))
    (hle : ∀ kv ∈ ops, kv.1 ≤ 56) (hle' : ∀ kv ∈ extra, kv.1 ≤ 56) (hsize : size = ((fieldBits ops).length + 7) / 8) :
    pl.length = size ∧ ({ rest := pl } : BR).Inv ∧ ∃ tl, ({ rest := pl } : BR).abs = fieldBits ops ++ tl := by
  have hall := List.forall_mem_append.2 ⟨hle, hle'⟩
  obtain ⟨hB, pad, hpad, hbits⟩ := BW.writeFields_spec _ hall
  have hlen := BW.writeFields_length _ hall
  rw [← fieldBits_length, fieldBits_append, List.length_append] at hlen
  obtain ⟨i0, a0⟩ := BR.init_spec 0 (hB.take size)
  rw [← BW.writeAll_append] at hpl
  subst hpl
  refine ⟨?_, i0, ?_⟩
  · show ((BW.writeFields (ops ++ extra)).take size).length = size
    rw [List.length_take, hlen, hsize]
    exact Nat.min_eq_left (Nat.div_le_div_right (by simp))
  · show ∃ tl, ({ rest := (BW.writeFields (ops ++ extra)).take size } : BR).abs = _
    rw [a0, bitsOfBytes_take, hbits, fieldBits_append, List.append_assoc, List.take_append,
      List.take_of_length_le (by omega)]
    exact ⟨_, rfl⟩

theorem cll_roundtrip (a b : Nat) (ha : a < 65536) (hb : b < 65536) :
    decodeCLL (cllPayload a b) = some (a, b) ∧ (cllPayload a b).length = 4 := by
  -- the positions are literals: each value is decoded from the very bytes it was encoded to
  have e : decodeCLL (cllPayload a b) = some (beVal (beBytes 2 a), beVal (beBytes 2 b)) := rfl
  rw [e, beVal_beBytes 2 a ha, beVal_beBytes 2 b hb]
  exact ⟨rfl, rfl⟩

def MDCV.OK (m : MDCV) : Prop :=
  m.px.length = 3 ∧ m.py.length = 3 ∧ (∀ x ∈ m.px, x < 65536) ∧ (∀ y ∈ m.py, y < 65536) ∧
  m.wx < 65536 ∧ m.wy < 65536 ∧ m.maxLum < 2 ^ 32 ∧ m.minLum < 2 ^ 32

theorem mdcv_roundtrip (m : MDCV) (h : m.OK) :
    decodeMDCV (mdcvPayload m) = some m ∧ (mdcvPayload m).length = 24 := by
  obtain ⟨px, py, wx, wy, mx, mn⟩ := m
  obtain ⟨h1, h2, h3, h4, h5, h6, h7, h8⟩ := h
  obtain ⟨x0, x1, x2, rfl⟩ : ∃ a b c, px = [a, b, c] := ⟨_, _, _, px.eq_getElem_of_length_eq_three h1⟩
  obtain ⟨y0, y1, y2, rfl⟩ : ∃ a b c, py = [a, b, c] := ⟨_, _, _, py.eq_getElem_of_length_eq_three h2⟩
  simp only [List.forall_mem_cons, List.not_mem_nil, false_imp_iff, implies_true, and_true] at h3 h4
  -- as for SEI 144, once the loop over the three primaries is unrolled
  simp only [mdcvPayload, List.range, List.range.loop, List.flatMap_cons, List.flatMap_nil, List.getD_cons_zero,
    List.getD_cons_succ, List.append_nil, List.append_assoc]
  refine ⟨(rfl : decodeMDCV _ = some ⟨[beVal (beBytes 2 x0), beVal (beBytes 2 x1), beVal (beBytes 2 x2)],
    [beVal (beBytes 2 y0), beVal (beBytes 2 y1), beVal (beBytes 2 y2)],
    beVal (beBytes 2 wx), beVal (beBytes 2 wy), beVal (beBytes 4 mx), beVal (beBytes 4 mn)⟩).trans ?_, rfl⟩
  simp only [beVal_beBytes, *]

/-- the time of day of a clock with its presence flags -/
structure Hms where
  secondsFlag : Bool
  minutesFlag : Bool
  hoursFlag : Bool
  seconds : Nat
  minutes : Nat
  hours : Nat

/-- with `full_timestamp_flag` all three values; otherwise each guarded by its flag, a value only if the one before
    it is present -/
def Hms.fields (full : Bool) (x : Hms) : List (Nat × Nat) :=
  if full then [(6, x.seconds), (6, x.minutes), (5, x.hours)]
  else (1, flagBit x.secondsFlag) ::
    if x.secondsFlag then (6, x.seconds) :: (1, flagBit x.minutesFlag) ::
      if x.minutesFlag then (6, x.minutes) :: (1, flagBit x.hoursFlag) ::
        if x.hoursFlag then [(5, x.hours)] else []
      else []
    else []

/-- what the decoders can produce: values in range, flags and values that are not coded are zero. `ClockTS.Canon` and
    `ClockAvc.Canon` contain this condition written out for their own fields; the specifications pass it on as it stands. -/
def Hms.Canon (full : Bool) (x : Hms) : Prop :=
  if full then
    x.seconds < 64 ∧ x.minutes < 64 ∧ x.hours < 32 ∧
    x.secondsFlag = false ∧ x.minutesFlag = false ∧ x.hoursFlag = false
  else
    x.seconds < 64 ∧ x.minutes < 64 ∧ x.hours < 32 ∧
    (x.secondsFlag = false → x.seconds = 0 ∧ x.minutesFlag = false) ∧
    (x.minutesFlag = false → x.minutes = 0 ∧ x.hoursFlag = false) ∧
    (x.hoursFlag = false → x.hours = 0)

/-- the read cascade of `DecodeClockTS` and `DecodePicTimingAvcSEIHRD`; `mk` builds the clock record, which the Go
    code fills in as it goes -/
def readHms {C : Type} (mk : Hms → C) (full : Bool) : Dec C :=
  if full then do
    let seconds ← readMod 6 256
    let minutes ← readMod 6 256
    let hours ← readMod 5 256
    pure (mk ⟨false, false, false, seconds, minutes, hours⟩)
  else do
    if ← readFlagBR then
      let seconds ← readMod 6 256
      if ← readFlagBR then
        let minutes ← readMod 6 256
        if ← readFlagBR then
          let hours ← readMod 5 256
          pure (mk ⟨true, true, true, seconds, minutes, hours⟩)
        else pure (mk ⟨true, true, false, seconds, minutes, 0⟩)
      else pure (mk ⟨true, false, false, seconds, 0, 0⟩)
    else pure (mk ⟨false, false, false, 0, 0, 0⟩)

theorem Hms.fields_width (full : Bool) (x : Hms) : ((x.fields full).map (·.1)).sum =
    if full then 17
    else 1 + if x.secondsFlag then 7 + (if x.minutesFlag then 7 + (if x.hoursFlag then 5 else 0) else 0) else 0 := by
  -- the cases of the definition and no more: `rfl` on the sum of a longer list is slow to check
  obtain ⟨secondsFlag, minutesFlag, hoursFlag, _, _, _⟩ := x
  cases full
  · cases secondsFlag
    · rfl
    · cases minutesFlag
      · rfl
      · cases hoursFlag <;> rfl
  · rfl

theorem Hms.fields_le (full : Bool) (x : Hms) : ∀ kv ∈ x.fields full, kv.1 ≤ 56 := by
  obtain ⟨secondsFlag, minutesFlag, hoursFlag, _, _, _⟩ := x
  unfold Hms.fields
  cases full
  · cases secondsFlag
    · simp
    · cases minutesFlag
      · simp
      · cases hoursFlag <;> simp
  · simp

theorem readHms_spec {C : Type} (mk : Hms → C) {full : Bool} {x : Hms} (hx : x.Canon full) :
    Reads (readHms mk full) (fieldBits (x.fields full)) (mk x) := by
  obtain ⟨secondsFlag, minutesFlag, hoursFlag, seconds, minutes, hours⟩ := x
  unfold Hms.Canon at hx
  unfold Hms.fields readHms
  cases full
  · simp only [Bool.false_eq_true, if_false, fieldBits] at hx ⊢
    obtain ⟨hs, hm, hh, k1, k2, k3⟩ := hx
    refine (reads_flag secondsFlag).bind ?_
    cases secondsFlag
    · obtain ⟨rfl, rfl⟩ := k1 rfl
      obtain ⟨rfl, rfl⟩ := k2 rfl
      obtain rfl := k3 rfl
      exact .pure rfl
    · simp only [if_true, fieldBits]
      refine (reads_mod hs).bind ((reads_flag minutesFlag).bind ?_)
      cases minutesFlag
      · obtain ⟨rfl, rfl⟩ := k2 rfl
        obtain rfl := k3 rfl
        exact .pure rfl
      · simp only [if_true, fieldBits]
        refine (reads_mod hm).bind ((reads_flag hoursFlag).bind ?_)
        cases hoursFlag
        · obtain rfl := k3 rfl
          exact .pure rfl
        · exact (reads_mod hh).bind (.pure rfl)
  · simp only [if_true, fieldBits] at hx ⊢
    obtain ⟨hs, hm, hh, rfl, rfl, rfl⟩ := hx
    exact (reads_mod hs).bind <| (reads_mod hm).bind <| (reads_mod hh).bind (.pure rfl)

/-- canonical clock values: exactly the values `DecodeClockTS` can produce (unused fields are zero) -/
def ClockTS.Canon (c : ClockTS) : Prop :=
  if c.clockTimeStampFlag then
    c.countingType < 32 ∧ c.nFrames < 512 ∧ c.timeOffsetLength < 32 ∧
    c.timeOffsetValue < 2 ^ c.timeOffsetLength ∧
    (if c.fullTimeStampFlag then
       c.seconds < 64 ∧ c.minutes < 64 ∧ c.hours < 32 ∧
       c.secondsFlag = false ∧ c.minutesFlag = false ∧ c.hoursFlag = false
     else
       c.seconds < 64 ∧ c.minutes < 64 ∧ c.hours < 32 ∧
       (c.secondsFlag = false → c.seconds = 0 ∧ c.minutesFlag = false) ∧
       (c.minutesFlag = false → c.minutes = 0 ∧ c.hoursFlag = false) ∧
       (c.hoursFlag = false → c.hours = 0))
  else c = {}

theorem ClockTS.fields_eq (c : ClockTS) : c.fields = (1, flagBit c.clockTimeStampFlag) ::
    if c.clockTimeStampFlag then
      [(1, flagBit c.unitsFieldBasedFlag), (5, c.countingType), (1, flagBit c.fullTimeStampFlag),
       (1, flagBit c.discontinuityFlag), (1, flagBit c.cntDroppedFlag), (9, c.nFrames)] ++
      Hms.fields c.fullTimeStampFlag ⟨c.secondsFlag, c.minutesFlag, c.hoursFlag, c.seconds, c.minutes, c.hours⟩ ++
      (5, c.timeOffsetLength) :: (if c.timeOffsetLength > 0 then [(c.timeOffsetLength, c.timeOffsetValue)] else [])
    else [] := rfl

theorem decodeClockTS_eq : decodeClockTS = (do
    if ← readFlagBR then
      let ufb ← readFlagBR
      let ct ← readMod 5 256
      let full ← readFlagBR
      let disc ← readFlagBR
      let cnt ← readFlagBR
      let nf ← readMod 9 65536
      let c ← readHms (fun x => (⟨0, nf, x.hours, x.minutes, x.seconds, true, ufb, full,
        x.secondsFlag, x.minutesFlag, x.hoursFlag, disc, cnt, ct, 0⟩ : ClockTS)) full
      let tol ← readMod 5 256
      if tol > 0 then
        let tov ← readMod tol (2 ^ 32)
        pure { c with timeOffsetLength := tol, timeOffsetValue := tov }
      else pure { c with timeOffsetLength := tol }
    else pure {} : Dec ClockTS) := by
  funext r
  -- `↓`: rewrite a bind before its body, which `simp` otherwise traverses once for every enclosing bind (slow)
  simp only [decodeClockTS, readHms, ↓Dec.bind_apply, ↓Dec.ite_apply, ↓Dec.pure_apply]

theorem decodeClockTS_spec (c : ClockTS) (hc : c.Canon) : Reads decodeClockTS (fieldBits c.fields) c := by
  rw [decodeClockTS_eq, ClockTS.fields_eq]
  obtain ⟨tov, nf, hours, minutes, seconds, ctf, ufb, full, secondsFlag, minutesFlag, hoursFlag, disc, cnt, ct,
    tol⟩ := c
  unfold ClockTS.Canon at hc
  refine (reads_flag ctf).bind ?_
  cases ctf
  · exact .pure (Eq.symm hc)
  · simp only [if_true, fieldBits, fieldBits_append, List.cons_append, List.nil_append] at hc ⊢
    obtain ⟨hct, hnf, htol, htov, hx⟩ := hc
    refine (reads_flag ufb).bind <| (reads_mod hct).bind <| (reads_flag full).bind <|
      (reads_flag disc).bind <| (reads_flag cnt).bind <| (reads_mod hnf).bind <|
      (readHms_spec _ (x := ⟨secondsFlag, minutesFlag, hoursFlag, seconds, minutes, hours⟩) hx).bind <|
      (reads_mod htol).bind ?_
    by_cases ht : tol > 0
    · rw [if_pos ht, if_pos ht]
      exact (reads_mod htov (by omega) (Nat.pow_le_pow_right (by decide) (Nat.le_of_lt htol))).bind (.pure rfl)
    · obtain rfl : tol = 0 := Nat.eq_zero_of_not_pos ht
      obtain rfl : tov = 0 := by simpa using htov
      exact .pure rfl

theorem ClockTS.fields_width (c : ClockTS) : (c.fields.map (·.1)).sum = c.nrBits := by
  rw [ClockTS.fields_eq, ClockTS.nrBits]
  cases c.clockTimeStampFlag
  · rfl
  · simp only [if_true, List.map_cons, List.map_append, List.sum_cons, List.sum_append, Hms.fields_width]
    by_cases ht : c.timeOffsetLength > 0 <;> simp [ht] <;> omega

theorem ClockTS.fields_le (c : ClockTS) (hc : c.Canon) : ∀ kv ∈ c.fields, kv.1 ≤ 56 := by
  unfold ClockTS.Canon at hc
  rw [ClockTS.fields_eq]
  split at hc
  · simp only [*, if_true, List.forall_mem_cons, List.forall_mem_append, Nat.reduceLeDiff, true_and]
    refine ⟨⟨by simp, Hms.fields_le _ _⟩, ?_⟩
    split <;> simp <;> omega
  · simp [*]

theorem timeCode_roundtrip (clocks : List ClockTS) (hn : clocks.length ≤ 3) (hc : ∀ c ∈ clocks, c.Canon) :
    decodeTimeCode (timeCodePayload clocks) = (clocks, false) ∧
    (timeCodePayload clocks).length = timeCodeSize clocks := by
  -- count and clocks, then the marker bit; when that bit would start a new byte, `Size()` leaves no room for it and
  -- it is dropped: the decoder does not read it
  have hpl : timeCodePayload clocks = sliceWriterBytes (timeCodeSize clocks)
      ((({} : BW).writeAll ((2, clocks.length) :: clocks.flatMap ClockTS.fields)).writeAll [(1, 1)]) := by
    rw [timeCodePayload, BW.foldl_writeAll]; rfl
  have hw : (fieldBits ((2, clocks.length) :: clocks.flatMap ClockTS.fields)).length =
      2 + (clocks.map ClockTS.nrBits).sum := by
    simp [fieldBits, fieldBits_flatMap_length ClockTS.fields_width]
  obtain ⟨hlen, i0, tl, a0⟩ := sliceWriter_spec hpl
    (List.forall_mem_cons.2 ⟨by simp, List.forall_mem_flatMap.2 fun c h => c.fields_le (hc c h)⟩) (by decide)
    (by rw [hw]; rfl)
  refine ⟨?_, hlen⟩
  obtain ⟨r1, e1, i1, a1, -⟩ := reads_field (k := 2) (by omega) (by decide) i0 a0
  obtain ⟨r2, e2, i2, a2⟩ := reads_loop (go := decodeTimeCode.go) (fun _ _ => rfl) (fun _ _ _ => rfl) clocks
    (fun c h => decodeClockTS_spec c (hc c h)) [] i1 a1
  simp only [decodeTimeCode, e1, e2, i2.err, List.nil_append]

/-- two's complement: the unsigned image of `x ∈ [-H, H)` in `2 * H` values (`H = 2 ^ (n - 1)`) and its decoding by
    the top bit -/
theorem toUnsigned_spec (x : Int) (n : Nat) (hn : 0 < n)
    (h1 : -(2 ^ (n - 1) : Int) ≤ x) (h2 : x < 2 ^ (n - 1)) :
    toUnsigned x n < 2 ^ n ∧
    (if toUnsigned x n >>> (n - 1) = 1 then (toUnsigned x n : Int) - 2 ^ n else (toUnsigned x n : Int)) = x := by
  obtain ⟨m, rfl⟩ := Nat.exists_eq_add_one.2 hn
  rw [toUnsigned, Nat.shiftRight_eq_div_pow, Nat.pow_succ, Int.pow_succ]
  rw [Nat.add_sub_cancel, show (2 : Int) ^ m = (2 ^ m : Nat) by simp] at *
  generalize 2 ^ m = H at *
  by_cases hx : x < 0
  · have e : x % (H * 2 : Int) = x + H * 2 := by
      rw [← Int.add_mul_emod_self_left x (H * 2) 1, Int.mul_one]
      exact Int.emod_eq_of_lt (by omega) (by omega)
    rw [e, if_pos (Nat.div_eq_of_lt_le (by omega) (by omega))]
    omega
  · rw [Int.emod_eq_of_lt (Int.not_lt.1 hx) (by omega), if_neg (by rw [Nat.div_eq_of_lt (by omega)]; decide)]
    omega

theorem reads_signed {n : Nat} {x : Int} (hn : 0 < n) (hk : n ≤ 56)
    (h1 : -(2 ^ (n - 1) : Int) ≤ x) (h2 : x < 2 ^ (n - 1)) :
    Reads (fun r => readSigned r n) (lowBits n (toUnsigned x n)) x := by
  intro r tail hr habs
  have hs := toUnsigned_spec x n hn h1 h2
  obtain ⟨r', e, i⟩ := reads_field hs.1 hk hr habs
  exact ⟨r', by simp only [readSigned, show r.read n = _ from e, hs.2], i⟩

/-- canonical AVC clock for a given externally signalled time offset length `tol` -/
def ClockAvc.Canon (tol : Nat) (c : ClockAvc) : Prop :=
  c.timeOffsetLength = tol ∧
  if c.clockTimeStampFlag then
    c.ctType < 4 ∧ c.countingType < 32 ∧ c.nFrames < 256 ∧
    (if tol = 0 then c.timeOffsetValue = 0
     else -(2 ^ (tol - 1) : Int) ≤ c.timeOffsetValue ∧ c.timeOffsetValue < 2 ^ (tol - 1)) ∧
    (if c.fullTimeStampFlag then
       c.seconds < 64 ∧ c.minutes < 64 ∧ c.hours < 32 ∧
       c.secondsFlag = false ∧ c.minutesFlag = false ∧ c.hoursFlag = false
     else
       c.seconds < 64 ∧ c.minutes < 64 ∧ c.hours < 32 ∧
       (c.secondsFlag = false → c.seconds = 0 ∧ c.minutesFlag = false) ∧
       (c.minutesFlag = false → c.minutes = 0 ∧ c.hoursFlag = false) ∧
       (c.hoursFlag = false → c.hours = 0))
  else c = { timeOffsetLength := tol }

theorem ClockAvc.fields_eq (c : ClockAvc) : c.fields = (1, flagBit c.clockTimeStampFlag) ::
    if c.clockTimeStampFlag then
      [(2, c.ctType), (1, flagBit c.nuitFieldBasedFlag), (5, c.countingType), (1, flagBit c.fullTimeStampFlag),
       (1, flagBit c.discontinuityFlag), (1, flagBit c.cntDroppedFlag), (8, c.nFrames)] ++
      Hms.fields c.fullTimeStampFlag ⟨c.secondsFlag, c.minutesFlag, c.hoursFlag, c.seconds, c.minutes, c.hours⟩ ++
      (if c.timeOffsetLength > 0 then [(c.timeOffsetLength, toUnsigned c.timeOffsetValue c.timeOffsetLength)] else [])
    else [] := rfl

theorem decodeClockAvc_eq (tol : Nat) : (fun r => decodeClockAvc r tol) = (do
    if ← readFlagBR then
      let ctt ← readMod 2 256
      let nfb ← readFlagBR
      let ct ← readMod 5 256
      let full ← readFlagBR
      let disc ← readFlagBR
      let cnt ← readFlagBR
      let nf ← readMod 8 256
      let c ← readHms (fun x => (⟨ctt, nfb, ct, nf, x.hours, x.minutes, x.seconds, true, full,
        x.secondsFlag, x.minutesFlag, x.hoursFlag, disc, cnt, tol, 0⟩ : ClockAvc)) full
      if tol > 0 then
        let v ← (readSigned · tol)
        pure { c with timeOffsetValue := v }
      else pure c
    else pure { timeOffsetLength := tol } : Dec ClockAvc) := by
  funext r
  simp only [decodeClockAvc, readHms, ↓Dec.bind_apply, ↓Dec.ite_apply, ↓Dec.pure_apply]

theorem decodeClockAvc_spec (tol : Nat) (htol : tol < 32) (c : ClockAvc) (hc : c.Canon tol) :
    Reads (fun r => decodeClockAvc r tol) (fieldBits c.fields) c := by
  rw [decodeClockAvc_eq, ClockAvc.fields_eq]
  obtain ⟨ctt, nfb, ct, nf, hours, minutes, seconds, ctf, full, secondsFlag, minutesFlag, hoursFlag, disc, cnt, tol',
    tov⟩ := c
  unfold ClockAvc.Canon at hc
  obtain ⟨rfl, hc⟩ : tol' = tol ∧ _ := hc
  refine (reads_flag ctf).bind ?_
  cases ctf
  · exact .pure (Eq.symm hc)
  · simp only [if_true, fieldBits, fieldBits_append, List.cons_append, List.nil_append] at hc ⊢
    obtain ⟨hctt, hct, hnf, htov, hx⟩ := hc
    refine (reads_mod hctt).bind <| (reads_flag nfb).bind <| (reads_mod hct).bind <| (reads_flag full).bind <|
      (reads_flag disc).bind <| (reads_flag cnt).bind <| (reads_mod hnf).bind <|
      (readHms_spec _ (x := ⟨secondsFlag, minutesFlag, hoursFlag, seconds, minutes, hours⟩) hx).bind ?_
    by_cases ht : tol' > 0
    · rw [if_pos ht, if_pos ht]
      rw [if_neg (Nat.ne_of_gt ht)] at htov
      exact (reads_signed ht (by omega) htov.1 htov.2).bind (.pure rfl)
    · obtain rfl : tol' = 0 := Nat.eq_zero_of_not_pos ht
      obtain rfl : tov = 0 := by simpa using htov
      exact .pure rfl

theorem ClockAvc.fields_width (c : ClockAvc) : (c.fields.map (·.1)).sum = c.nrBits := by
  rw [ClockAvc.fields_eq, ClockAvc.nrBits]
  cases c.clockTimeStampFlag
  · rfl
  · simp only [if_true, List.map_cons, List.map_append, List.sum_cons, List.sum_append, Hms.fields_width]
    by_cases ht : c.timeOffsetLength > 0 <;> simp [ht] <;> omega

theorem ClockAvc.fields_le (tol : Nat) (htol : tol < 32) (c : ClockAvc) (hc : c.Canon tol) :
    ∀ kv ∈ c.fields, kv.1 ≤ 56 := by
  rw [ClockAvc.fields_eq, hc.1]
  cases c.clockTimeStampFlag
  · simp
  · simp only [if_true, List.forall_mem_cons, List.forall_mem_append, Nat.reduceLeDiff, true_and]
    refine ⟨⟨by simp, Hms.fields_le _ _⟩, ?_⟩
    split <;> simp <;> omega

def PicTimingAvc.OK (tol : Nat) (p : PicTimingAvc) : Prop :=
  tol < 32 ∧ p.pictStruct ≤ 8 ∧
  p.clocks.length = (if p.pictStruct ≤ 2 then 1 else if p.pictStruct ≤ 4 then 2 else 3) ∧
  (∀ c ∈ p.clocks, c.Canon tol) ∧
  (match p.hrd with
   | some (cpb, dpb, a, b) => a < 32 ∧ b < 32 ∧ cpb < 2 ^ (a + 1) ∧ dpb < 2 ^ (b + 1)
   | none => True)

/-- the fields `PicTimingAvcSEI.Payload` writes in front of `pic_struct` when the HRD parameters are present -/
def hrdFields : Option (Nat × Nat × Nat × Nat) → List (Nat × Nat)
  | some (cpb, dpb, a, b) => [(a + 1, cpb), (b + 1, dpb)]
  | none => []

/-- the fields `PicTimingAvcSEI.Payload` writes -/
def PicTimingAvc.fields (p : PicTimingAvc) : List (Nat × Nat) :=
  hrdFields p.hrd ++ (4, p.pictStruct) :: p.clocks.flatMap ClockAvc.fields

theorem picTimingPayload_eq (p : PicTimingAvc) :
    picTimingPayload p = sliceWriterBytes (picTimingSize p) (({} : BW).writeAll p.fields) := by
  rw [picTimingPayload, BW.foldl_writeAll]
  rcases p with ⟨_ | _, _, _⟩ <;> rfl

theorem picTimingSize_eq (p : PicTimingAvc) : picTimingSize p = ((fieldBits p.fields).length + 7) / 8 := by
  simp only [PicTimingAvc.fields, fieldBits_append, List.length_append, fieldBits, lowBits_length,
    fieldBits_flatMap_length ClockAvc.fields_width]
  rcases p with ⟨_ | ⟨cpb, dpb, a, b⟩, _, _⟩ <;> simp [picTimingSize, hrdFields, fieldBits]
  omega

theorem PicTimingAvc.fields_le {tol : Nat} {p : PicTimingAvc} (h : p.OK tol) : ∀ kv ∈ p.fields, kv.1 ≤ 56 := by
  obtain ⟨htol, -, -, hc, hh⟩ := h
  simp only [PicTimingAvc.fields, List.forall_mem_append, List.forall_mem_cons, List.forall_mem_flatMap]
  refine ⟨?_, by decide, fun c h => c.fields_le tol htol (hc c h)⟩
  rcases p with ⟨_ | ⟨cpb, dpb, a, b⟩, _, _⟩
  · simp [hrdFields]
  · simp only [hrdFields] at hh ⊢; simp; omega

theorem picTiming_roundtrip (tol : Nat) (p : PicTimingAvc) (h : p.OK tol) :
    decodePicTimingAvc (picTimingPayload p) (p.hrd.map fun x => (x.2.2.1, x.2.2.2)) tol = some (p, false) ∧
    (picTimingPayload p).length = picTimingSize p := by
  obtain ⟨hlen', i0, tl, a0⟩ := sliceWriter_spec (extra := []) (picTimingPayload_eq p) (PicTimingAvc.fields_le h)
    (fun _ h => nomatch h) (picTimingSize_eq p)
  refine ⟨?_, hlen'⟩
  obtain ⟨hrd, ps, cs⟩ := p
  obtain ⟨htol, hps, hlen, hc, hh⟩ := h
  simp only at hps hlen hc hh
  rw [PicTimingAvc.fields, fieldBits_append, fieldBits, List.append_assoc, List.append_assoc] at a0
  -- what follows the HRD delays: `pic_struct` and the clocks
  have key : ∀ {r0 : BR}, r0.Inv → r0.abs = lowBits 4 ps ++ (fieldBits (cs.flatMap ClockAvc.fields) ++ tl) →
      ∃ r1 r2, r0.read 4 = (r1, ps) ∧ decodePicTimingAvc.go tol cs.length r1 [] = (r2, cs) ∧ r2.err = false := by
    intro r0 i0 a0
    obtain ⟨r1, e1, i1, a1, -⟩ := reads_field (k := 4) (Nat.lt_of_le_of_lt hps (by decide)) (by decide) i0 a0
    obtain ⟨r2, e2, i2, a2⟩ := reads_loop (go := decodePicTimingAvc.go tol) (fun _ _ => rfl) (fun _ _ _ => rfl) cs
      (fun c h => decodeClockAvc_spec tol htol c (hc c h)) [] i1 a1
    exact ⟨r1, r2, e1, e2, i2.err⟩
  have hm : ps % 256 = ps := Nat.mod_eq_of_lt (Nat.lt_of_le_of_lt hps (by decide))
  have hng : ¬ ps > 8 := Nat.not_lt.2 hps
  rcases hrd with _ | ⟨cpb, dpb, a, b⟩
  · obtain ⟨r1, r2, e1, e2, e3⟩ := key i0 a0
    rw [hlen] at e2
    simp only [decodePicTimingAvc, Option.map_none, e1, hm, hng, ↓reduceIte, e2, e3]
  · obtain ⟨ha, hb, hcpb, hdpb⟩ := hh
    simp only [hrdFields, fieldBits, List.append_assoc, List.append_nil] at a0
    obtain ⟨ra, ea, ia, aa, -⟩ := reads_field hcpb (Nat.le_trans ha (by decide)) i0 a0
    obtain ⟨rb, eb, ib, ab, -⟩ := reads_field hdpb (Nat.le_trans hb (by decide)) ia aa
    obtain ⟨r1, r2, e1, e2, e3⟩ := key ib ab
    rw [hlen] at e2
    simp only [decodePicTimingAvc, Option.map_some, ea, eb, e1, hm, hng, ↓reduceIte, e2, e3]

end Mp4ff.Sei
