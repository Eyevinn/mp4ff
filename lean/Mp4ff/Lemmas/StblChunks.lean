import Mp4ff.Lemmas.StblSamples
/-!
C09, stsc and what rests on it: chunk of a sample, contents of a chunk, containing chunks, byte ranges of a sample
interval.  `InEntry raw j c` says chunk `c` belongs to stsc entry `j`.  Inside an entry the chunks start
`samples_per_chunk` apart (`firstSampleOf_entry`), so every lookup is: find the entry (a `bsFirst` search, Cells.lean),
then uint32 arithmetic inside it that does not wrap (`chunkStart_eq`, `nrInEntry_eq`).
-/
namespace Mp4ff.Stbl

/-- raw stsc entries (first_chunk, samples_per_chunk, description id): first_chunk strictly increasing from 1,
    samples_per_chunk positive -/
def RawOK (raw : List (Nat × Nat × Nat)) : Prop :=
  raw ≠ [] ∧ (raw.headD (0, 0, 0)).1 = 1 ∧ raw.Pairwise (fun a b => a.1 < b.1) ∧ ∀ e ∈ raw, 0 < e.2.1

/-- samples-per-chunk of chunk `c` (1-based): the last entry whose first_chunk ≤ c -/
def spcOf (raw : List (Nat × Nat × Nat)) (c : Nat) : Nat :=
  ((raw.filter fun e => e.1 ≤ c).getLast?.map (·.2.1)).getD 0

/-- description id of chunk `c` (1-based): that of the last entry whose first_chunk ≤ c -/
def sdiOf (raw : List (Nat × Nat × Nat)) (c : Nat) : Nat :=
  ((raw.filter fun e => e.1 ≤ c).getLast?.map (·.2.2)).getD 0

/-- first sample (1-based) of chunk `c` -/
def firstSampleOf (raw : List (Nat × Nat × Nat)) (c : Nat) : Nat :=
  1 + ((List.range (c - 1)).map fun i => spcOf raw (i + 1)).sum

/-- everything the uint32 arithmetic touches stays below 2^32 for chunks up to `cmax` -/
def NoWrap (raw : List (Nat × Nat × Nat)) (cmax : Nat) : Prop :=
  cmax + 1 < U32 ∧ firstSampleOf raw (cmax + 1) < U32 ∧ ∀ e ∈ raw, e.1 ≤ cmax

theorem RawOK.ne_nil {raw} (h : RawOK raw) : raw ≠ [] := h.1
theorem RawOK.head {raw} (h : RawOK raw) : (raw.headD (0, 0, 0)).1 = 1 := h.2.1
theorem RawOK.sorted {raw} (h : RawOK raw) : raw.Pairwise (fun a b => a.1 < b.1) := h.2.2.1
theorem RawOK.spc_pos {raw} (h : RawOK raw) : ∀ e ∈ raw, 0 < e.2.1 := h.2.2.2

theorem NoWrap.chunks_lt {raw cmax} (hw : NoWrap raw cmax) : cmax + 1 < U32 := hw.1
theorem NoWrap.samples_lt {raw cmax} (hw : NoWrap raw cmax) : firstSampleOf raw (cmax + 1) < U32 := hw.2.1
theorem NoWrap.first_le {raw cmax} (hw : NoWrap raw cmax) : ∀ e ∈ raw, e.1 ≤ cmax := hw.2.2

theorem U64_eq : U64 = 18446744073709551616 := by decide

/-- first_chunk and samples_per_chunk of entry `j` (0-based); 0 out of range -/
def fcAt (raw : List (Nat × Nat × Nat)) (j : Nat) : Nat := (raw.getD j (0, 0, 0)).1
def spcAt (raw : List (Nat × Nat × Nat)) (j : Nat) : Nat := (raw.getD j (0, 0, 0)).2.1

theorem fcAt_eq {raw : List (Nat × Nat × Nat)} {j : Nat} (h : j < raw.length) : fcAt raw j = raw[j].1 := by
  simp [fcAt, List.getD_eq_getElem?_getD, h]
theorem spcAt_eq {raw : List (Nat × Nat × Nat)} {j : Nat} (h : j < raw.length) : spcAt raw j = raw[j].2.1 := by
  simp [spcAt, List.getD_eq_getElem?_getD, h]

structure InEntry (raw : List (Nat × Nat × Nat)) (j c : Nat) : Prop where
  lt : j < raw.length
  lo : fcAt raw j ≤ c
  hi : j + 1 < raw.length → c < fcAt raw (j + 1)

theorem InEntry.le_next {raw j c} (hin : InEntry raw j c) : j + 1 < raw.length → c ≤ fcAt raw (j + 1) :=
  fun h => Nat.le_of_lt (hin.hi h)

theorem fcAt_lt {raw} (h : RawOK raw) {i j : Nat} (hij : i < j) (hj : j < raw.length) :
    fcAt raw i < fcAt raw j := by
  have hp := h.sorted
  rw [List.pairwise_iff_getElem] at hp
  rw [fcAt_eq hj, fcAt_eq (Nat.lt_trans hij hj)]
  exact hp i j _ _ hij

theorem fcAt_le {raw} (h : RawOK raw) {i j : Nat} (hij : i ≤ j) (hj : j < raw.length) :
    fcAt raw i ≤ fcAt raw j := by
  rcases Nat.eq_or_lt_of_le hij with rfl | hlt
  · exact Nat.le_refl _
  · exact Nat.le_of_lt (fcAt_lt h hlt hj)

theorem raw_length_pos {raw} (h : RawOK raw) : 0 < raw.length := List.length_pos_iff.2 h.ne_nil

theorem fcAt_zero {raw} (h : RawOK raw) : fcAt raw 0 = 1 := by
  have h2 := h.head
  cases raw with
  | nil => exact absurd rfl h.ne_nil
  | cons a t => simpa [fcAt] using h2

theorem fcAt_ge {raw} (h : RawOK raw) : ∀ j, j < raw.length → j + 1 ≤ fcAt raw j := by
  intro j
  induction j with
  | zero => intro _; rw [fcAt_zero h]; omega
  | succ k ih =>
    intro hk
    have := fcAt_lt h (Nat.lt_add_one k) hk
    omega

theorem spcAt_pos {raw} (h : RawOK raw) {j} (hj : j < raw.length) : 0 < spcAt raw j := by
  rw [spcAt_eq hj]; exact h.spc_pos _ (List.getElem_mem hj)

theorem fcAt_le_cmax {raw cmax} (hw : NoWrap raw cmax) {j} (hj : j < raw.length) : fcAt raw j ≤ cmax := by
  rw [fcAt_eq hj]; exact hw.first_le _ (List.getElem_mem hj)

/-- the last entry starts at chunk `raw.length` or later, and at chunk `cmax` or earlier -/
theorem raw_length_lt_U32 {raw cmax} (h : RawOK raw) (hw : NoWrap raw cmax) : raw.length < U32 := by
  have hp := raw_length_pos h
  have := fcAt_ge h (raw.length - 1) (by omega)
  have := fcAt_le_cmax hw (j := raw.length - 1) (by omega)
  have := hw.chunks_lt
  omega

theorem InEntry.mono {raw} (h : RawOK raw) {j j' c c'} (hin : InEntry raw j c) (hin' : InEntry raw j' c')
    (hcc : c ≤ c') : j ≤ j' := by
  apply Nat.le_of_not_lt
  intro hlt
  have := hin'.hi (Nat.lt_of_le_of_lt hlt hin.lt)
  have := fcAt_le h (i := j' + 1) hlt hin.lt
  have := hin.lo
  omega

theorem filter_le_take {raw} (h : RawOK raw) {k x : Nat} (hk : k < raw.length → x < fcAt raw k) :
    (raw.take k).filter (fun e => decide (e.1 ≤ x)) = raw.filter (fun e => decide (e.1 ≤ x)) := by
  have e2 : (raw.drop k).filter (fun e => decide (e.1 ≤ x)) = [] := by
    rw [List.filter_eq_nil_iff]
    intro a ha
    rw [List.mem_drop_iff_getElem] at ha
    obtain ⟨i, hi, rfl⟩ := ha
    have hi' : k + i < raw.length := by omega
    have := fcAt_le h (i := k) (j := k + i) (by omega) hi'
    rw [fcAt_eq hi'] at this
    simp; omega
  conv => rhs; rw [← List.take_append_drop k raw]
  rw [List.filter_append, e2, List.append_nil]

theorem getLast?_filter_of_inEntry {raw} (h : RawOK raw) {j c} (hin : InEntry raw j c) :
    (raw.filter fun e => decide (e.1 ≤ c)).getLast? = some (raw.getD j (0, 0, 0)) := by
  have hj := hin.lt
  have hlo := hin.lo
  rw [fcAt_eq hj] at hlo
  -- entries past `j` start after `c`, and entry `j`, the last of the rest, passes the filter
  rw [← filter_le_take h (k := j + 1) hin.hi, List.take_succ_eq_append_getElem hj, List.filter_append,
    List.filter_cons_of_pos (a := raw[j]) (by simpa using hlo), List.filter_nil, List.getLast?_concat,
    List.getD_eq_getElem?_getD, List.getElem?_eq_getElem hj]
  rfl

theorem spcOf_of_inEntry {raw} (h : RawOK raw) {j c} (hin : InEntry raw j c) : spcOf raw c = spcAt raw j := by
  unfold spcOf; rw [getLast?_filter_of_inEntry h hin]; rfl

theorem sdiOf_of_inEntry {raw} (h : RawOK raw) {j c} (hin : InEntry raw j c) :
    sdiOf raw c = (raw.getD j (0, 0, 0)).2.2 := by
  unfold sdiOf; rw [getLast?_filter_of_inEntry h hin]; rfl

theorem firstSampleOf_succ (raw) {c : Nat} (hc : 1 ≤ c) :
    firstSampleOf raw (c + 1) = firstSampleOf raw c + spcOf raw c := by
  obtain ⟨k, rfl⟩ := Nat.exists_eq_add_one.2 (by omega : 0 < c)
  simp [firstSampleOf, List.range_succ, List.sum_append]
  omega

theorem firstSampleOf_le_succ (raw) (c : Nat) : firstSampleOf raw c ≤ firstSampleOf raw (c + 1) := by
  cases c with
  | zero => simp [firstSampleOf]
  | succ k => rw [firstSampleOf_succ raw (c := k + 1) (by omega)]; omega

theorem firstSampleOf_mono (raw) {c c' : Nat} (hcc : c ≤ c') : firstSampleOf raw c ≤ firstSampleOf raw c' := by
  obtain ⟨k, rfl⟩ := Nat.exists_eq_add_of_le hcc
  exact le_of_steps (firstSampleOf_le_succ raw) c k

theorem firstSampleOf_one (raw) : firstSampleOf raw 1 = 1 := by simp [firstSampleOf]
theorem firstSampleOf_pos (raw c) : 1 ≤ firstSampleOf raw c := by unfold firstSampleOf; omega

/-- inside entry `j`, up to and including the first chunk of the next entry, chunks are `spcAt raw j` samples apart -/
theorem firstSampleOf_entry {raw} (h : RawOK raw) {j c} (hj : j < raw.length) (hlo : fcAt raw j ≤ c)
    (hhi : j + 1 < raw.length → c ≤ fcAt raw (j + 1)) :
    firstSampleOf raw c = firstSampleOf raw (fcAt raw j) + (c - fcAt raw j) * spcAt raw j := by
  induction hlo with
  | refl => rw [Nat.sub_self, Nat.zero_mul, Nat.add_zero]
  | @step c hlo ih =>
    have h1 : 1 ≤ c := Nat.le_trans (Nat.le_trans (Nat.le_add_left 1 j) (fcAt_ge h j hj)) hlo
    rw [firstSampleOf_succ raw h1, ih fun h' => Nat.le_of_lt (hhi h'), spcOf_of_inEntry h ⟨hj, hlo, hhi⟩,
      Nat.succ_sub hlo, Nat.succ_mul, Nat.add_assoc]

theorem firstSampleOf_lt_U32 {raw cmax} (hw : NoWrap raw cmax) {c} (hc : c ≤ cmax + 1) : firstSampleOf raw c < U32 :=
  Nat.lt_of_le_of_lt (firstSampleOf_mono raw hc) hw.samples_lt

/-- first sample of chunk `c` as `ofRaw`, `GetChunk` and `GetContainingChunks` compute it in uint32 arithmetic from
    the entry the chunk belongs to -/
theorem chunkStart_eq {raw cmax} (h : RawOK raw) (hw : NoWrap raw cmax) {j c} (hj : j < raw.length)
    (hlo : fcAt raw j ≤ c) (hhi : j + 1 < raw.length → c ≤ fcAt raw (j + 1)) (hc : c ≤ cmax + 1) :
    (firstSampleOf raw (fcAt raw j) + ((c + U32 - fcAt raw j) % U32 * spcAt raw j) % U32) % U32 =
      firstSampleOf raw c := by
  have hb := firstSampleOf_lt_U32 hw hc
  rw [firstSampleOf_entry h hj hlo hhi] at hb ⊢
  rw [wrap_sub hlo (Nat.lt_of_le_of_lt hc hw.chunks_lt), Nat.mod_eq_of_lt (Nat.lt_of_le_of_lt (Nat.le_add_left _ _) hb),
    Nat.mod_eq_of_lt hb]

theorem ofRaw_entries {raw cmax} (h : RawOK raw) (hw : NoWrap raw cmax) :
    (Stsc.ofRaw raw).entries = raw.map fun r => ⟨r.1, r.2.1, firstSampleOf raw r.1⟩ := by
  -- by induction on the length `k` of the prefix folded so far
  have key : ∀ k, k ≤ raw.length → (Stsc.ofRaw (raw.take k)).entries =
      (raw.take k).map fun r => ⟨r.1, r.2.1, firstSampleOf raw r.1⟩ := by
    intro k
    induction k with
    | zero => intro _; rfl
    | succ k ih =>
      intro hk
      have hk' : k < raw.length := hk
      have ih := ih (Nat.le_of_lt hk')
      simp only [Stsc.ofRaw] at ih ⊢
      rw [List.take_succ_eq_append_getElem hk', List.foldl_append, ih]
      simp only [List.foldl_cons, List.foldl_nil, List.map_append, List.map_cons, List.map_nil]
      cases k with
      | zero =>
        have := fcAt_zero h
        rw [fcAt_eq hk'] at this
        simp [this, firstSampleOf_one]
      | succ k =>
        -- the cached first sample of entry `k + 1` is computed from entry `k`
        have hk2 : k < raw.length := Nat.lt_of_succ_lt hk'
        have := chunkStart_eq h hw hk2 (fcAt_le h (Nat.le_succ k) hk') (fun _ => Nat.le_refl _)
          (Nat.le_succ_of_le (fcAt_le_cmax hw hk'))
        rw [fcAt_eq hk', fcAt_eq hk2, spcAt_eq hk2] at this
        rw [List.take_succ_eq_append_getElem hk2]
        simp only [List.map_append, List.map_cons, List.map_nil, List.getLast?_concat, this]
  have := key raw.length (Nat.le_refl _)
  rwa [List.take_length] at this

theorem ofRaw_length {raw cmax} (h : RawOK raw) (hw : NoWrap raw cmax) :
    (Stsc.ofRaw raw).entries.length = raw.length := by
  rw [ofRaw_entries h hw]; simp

theorem ofRaw_getElem? {raw cmax} (h : RawOK raw) (hw : NoWrap raw cmax) {i} (hi : i < raw.length) :
    (Stsc.ofRaw raw).entries[i]? = some ⟨fcAt raw i, spcAt raw i, firstSampleOf raw (fcAt raw i)⟩ := by
  rw [ofRaw_entries h hw, fcAt_eq hi, spcAt_eq hi]
  simp [hi]

theorem ofRaw_getD {raw cmax} (h : RawOK raw) (hw : NoWrap raw cmax) {i} (hi : i < raw.length) (d : StscEntry) :
    (Stsc.ofRaw raw).entries.getD i d = ⟨fcAt raw i, spcAt raw i, firstSampleOf raw (fcAt raw i)⟩ := by
  rw [List.getD_eq_getElem?_getD, ofRaw_getElem? h hw hi]; rfl

/-- also out of range, where both sides are 0 -/
theorem ofRaw_firstChunk {raw cmax} (h : RawOK raw) (hw : NoWrap raw cmax) (i : Nat) :
    ((Stsc.ofRaw raw).entries.getD i ⟨0, 0, 0⟩).firstChunk = fcAt raw i := by
  rw [ofRaw_entries h hw, fcAt, List.getD_eq_getElem?_getD, List.getD_eq_getElem?_getD, List.getElem?_map]
  cases raw[i]? <;> rfl

theorem findEntryForSample_go_eq (b : Stsc) (s : Nat) : ∀ fuel lo hi,
    Stsc.findEntryForSample.go b s fuel lo hi =
      bsFirst (fun i => decide (s < (b.entries.getD i ⟨0, 0, 0⟩).firstSampleNr)) fuel lo hi := by
  intro fuel
  induction fuel with
  | zero => intro lo hi; rfl
  | succ fuel ih => intro lo hi; simp only [Stsc.findEntryForSample.go, bsFirst, ih, decide_eq_true_eq, gt_iff_lt]

theorem findEntryForChunk_go_eq (b : Stsc) (c : Nat) : ∀ fuel lo hi,
    Stsc.findEntryForChunk.go b c fuel lo hi =
      bsFirst (fun i => decide (c < (b.entries.getD i ⟨0, 0, 0⟩).firstChunk)) fuel lo hi := by
  intro fuel
  induction fuel with
  | zero => intro lo hi; rfl
  | succ fuel ih => intro lo hi; simp only [Stsc.findEntryForChunk.go, bsFirst, ih, decide_eq_true_eq, gt_iff_lt]

theorem findEntryForChunk_spec {raw cmax} (h : RawOK raw) (hw : NoWrap raw cmax) {c} (h1 : 1 ≤ c) :
    InEntry raw ((Stsc.ofRaw raw).findEntryForChunk c) c := by
  obtain ⟨hr, hp⟩ := bsFirst_spec (fun i => decide (c < fcAt raw i)) raw.length fun i j hij hj => by
    simp only [decide_eq_true_eq]
    exact fun hlt => Nat.lt_of_lt_of_le hlt (fcAt_le h hij hj)
  simp only [Stsc.findEntryForChunk, findEntryForChunk_go_eq, ofRaw_firstChunk h hw, ofRaw_length h hw]
  generalize bsFirst _ (raw.length + 1) 0 raw.length = r at hr hp
  simp only [decide_eq_true_eq] at hp
  -- the threshold is `q + 1` with `q` the entry of `c`; it is not 0, since entry 0 starts at chunk 1 ≤ c
  have h0 := (hp 0 (raw_length_pos h)).2
  rw [fcAt_zero h] at h0
  obtain ⟨q, rfl⟩ := Nat.exists_eq_add_one.2 (by omega : 0 < r)
  have hU := raw_length_lt_U32 h hw
  rw [wrap_sub (Nat.le_add_left 1 q) (by omega), Nat.add_sub_cancel]
  exact ⟨hr, Nat.le_of_not_lt fun hlt => Nat.not_succ_le_self q ((hp q hr).1 hlt),
    fun hlt => (hp (q + 1) hlt).2 (Nat.le_refl _)⟩

theorem exists_inEntry {raw cmax} (h : RawOK raw) (hw : NoWrap raw cmax) {c} (h1 : 1 ≤ c) : ∃ j, InEntry raw j c :=
  ⟨_, findEntryForChunk_spec h hw h1⟩

theorem findEntryForSample_spec {raw cmax} (h : RawOK raw) (hw : NoWrap raw cmax) {j c s low0}
    (hin : InEntry raw j c) (hs1 : firstSampleOf raw c ≤ s) (hs2 : s < firstSampleOf raw (c + 1)) (hl : low0 ≤ j) :
    (Stsc.ofRaw raw).findEntryForSample s low0 = j := by
  have hj := hin.lt
  simp only [Stsc.findEntryForSample, findEntryForSample_go_eq, ofRaw_length h hw]
  -- entries up to `j` start at or before chunk `c`, later ones after it
  rw [bsFirst_eq _ (j + 1) _ _ _ (Nat.le_succ_of_le hl) hj (by omega) fun i _ hi => by
    simp only [decide_eq_true_eq, ofRaw_getD h hw hi]
    constructor
    · intro hlt
      apply Nat.lt_of_not_le
      intro hij
      have hm : firstSampleOf raw (fcAt raw i) ≤ firstSampleOf raw c :=
        firstSampleOf_mono raw (Nat.le_trans (fcAt_le h hij hj) hin.lo)
      exact Nat.lt_irrefl s (Nat.lt_of_lt_of_le hlt (Nat.le_trans hm hs1))
    · intro hij
      have hci : c + 1 ≤ fcAt raw i := Nat.le_trans (hin.hi (Nat.lt_of_le_of_lt hij hi)) (fcAt_le h hij hi)
      exact Nat.lt_of_lt_of_le hs2 (firstSampleOf_mono raw hci)]
  exact wrap_sub (Nat.le_add_left 1 j) (Nat.lt_of_le_of_lt hj (raw_length_lt_U32 h hw))

/-- position of sample `n` of chunk `c` inside the entry `j` of that chunk, as the lookups compute it -/
theorem nrInEntry_eq {raw cmax} (h : RawOK raw) (hw : NoWrap raw cmax) {j c n} (hin : InEntry raw j c) (h1 : 1 ≤ c)
    (hc : c ≤ cmax) (hlo : firstSampleOf raw c ≤ n) (hhi : n < firstSampleOf raw (c + 1)) :
    (n + U32 - firstSampleOf raw (fcAt raw j)) % U32 / spcAt raw j = c - fcAt raw j := by
  have hn : n < U32 := Nat.lt_trans hhi (firstSampleOf_lt_U32 hw (by omega))
  rw [firstSampleOf_succ raw h1, spcOf_of_inEntry h hin] at hhi
  rw [firstSampleOf_entry h hin.lt hin.lo hin.le_next] at hlo hhi
  rw [wrap_sub (by omega) hn]
  apply Nat.div_eq_of_lt_le
  · omega
  · rw [Nat.succ_mul]; omega

theorem chunkNr_eq {raw cmax} (h : RawOK raw) (hw : NoWrap raw cmax) {j c n} (hin : InEntry raw j c) (h1 : 1 ≤ c)
    (hc : c ≤ cmax) (hlo : firstSampleOf raw c ≤ n) (hhi : n < firstSampleOf raw (c + 1)) :
    ((n + U32 - firstSampleOf raw (fcAt raw j)) % U32 / spcAt raw j + fcAt raw j) % U32 = c := by
  rw [nrInEntry_eq h hw hin h1 hc hlo hhi, Nat.sub_add_cancel hin.lo, Nat.mod_eq_of_lt (by have := hw.chunks_lt; omega)]

theorem getContainingChunks_go_spec {raw cmax} (h : RawOK raw) (hw : NoWrap raw cmax) (cb : Nat) (hcb : cb ≤ cmax) :
    ∀ fuel c j acc, c + fuel = cb + 1 → InEntry raw j c →
      Stsc.getContainingChunks.go (Stsc.ofRaw raw) raw.length cb fuel c j
          ⟨fcAt raw j, spcAt raw j, firstSampleOf raw (fcAt raw j)⟩ acc
        = acc ++ (List.range' c fuel).map fun c => ⟨c, firstSampleOf raw c, spcOf raw c⟩ := by
  intro fuel
  induction fuel with
  | zero => intro c j acc _ _; simp [Stsc.getContainingChunks.go]
  | succ fuel ih =>
    intro c j acc hsum hin
    obtain ⟨hccb, hsum'⟩ : c ≤ cb ∧ c + 1 + fuel = cb + 1 := by omega
    have hch : (⟨c, firstSampleOf raw c, spcAt raw j⟩ : Chunk) = ⟨c, firstSampleOf raw c, spcOf raw c⟩ := by
      rw [spcOf_of_inEntry h hin]
    unfold Stsc.getContainingChunks.go
    simp only [hccb, if_true, ofRaw_firstChunk h hw]
    rw [chunkStart_eq h hw hin.lt hin.lo hin.le_next (Nat.le_succ_of_le (Nat.le_trans hccb hcb)), hch, List.range'_succ,
      List.map_cons]
    conv => rhs; rw [List.append_cons]
    -- the next chunk opens entry `j + 1` or stays in entry `j`
    by_cases hnext : j + 1 < raw.length ∧ c + 1 = fcAt raw (j + 1)
    · rw [if_pos hnext, ofRaw_getD h hw hnext.1]
      exact ih _ _ _ hsum' ⟨hnext.1, Nat.le_of_eq hnext.2.symm,
        fun h' => by rw [hnext.2]; exact fcAt_lt h (Nat.lt_add_one _) h'⟩
    · rw [if_neg hnext]
      exact ih _ _ _ hsum' ⟨hin.lt, Nat.le_succ_of_le hin.lo,
        fun h' => Nat.lt_of_le_of_ne (hin.hi h') fun e => hnext ⟨h', e⟩⟩

theorem getChunk_spec (raw : List (Nat × Nat × Nat)) (h : RawOK raw) (cmax c : Nat) (hw : NoWrap raw cmax)
    (h1 : 1 ≤ c) (hc : c ≤ cmax) :
    (Stsc.ofRaw raw).getChunk c = some ⟨c, firstSampleOf raw c, spcOf raw c⟩ := by
  have hin := findEntryForChunk_spec h hw h1
  have hcs := chunkStart_eq h hw hin.lt hin.lo hin.le_next (by omega)
  rw [Nat.add_comm (firstSampleOf raw _)] at hcs
  rw [← hcs, spcOf_of_inEntry h hin]
  simp [Stsc.getChunk, show c ≠ 0 by omega, ofRaw_getElem? h hw hin.lt]

theorem getSampleDescriptionID_spec (raw : List (Nat × Nat × Nat)) (h : RawOK raw) (cmax c : Nat) (hw : NoWrap raw cmax)
    (h1 : 1 ≤ c) (_hc : c ≤ cmax) :
    (Stsc.ofRaw raw).getSampleDescriptionID c = some (sdiOf raw c) := by
  have hin := findEntryForChunk_spec h hw h1
  have hsdi : (Stsc.ofRaw raw).sdi = raw.map (·.2.2) := rfl
  simp [Stsc.getSampleDescriptionID, sdiOf_of_inEntry h hin, ofRaw_getElem? h hw hin.lt, hsdi,
    List.getD_eq_getElem?_getD, hin.lt]

theorem chunkNrFromSampleNr_spec (raw : List (Nat × Nat × Nat)) (h : RawOK raw) (cmax c n : Nat) (hw : NoWrap raw cmax)
    (h1 : 1 ≤ c) (hc : c ≤ cmax) (hlo : firstSampleOf raw c ≤ n) (hhi : n < firstSampleOf raw (c + 1)) :
    (Stsc.ofRaw raw).chunkNrFromSampleNr n = some (c, firstSampleOf raw c) := by
  obtain ⟨j, hin⟩ := exists_inEntry h hw h1
  have hcU : c < U32 := by have := hw.chunks_lt; omega
  unfold Stsc.chunkNrFromSampleNr
  rw [findEntryForSample_spec h hw hin hlo hhi (Nat.zero_le _), ofRaw_getElem? h hw hin.lt]
  simp only [Option.bind_eq_bind, Option.bind_some]
  rw [if_neg (Nat.ne_of_gt (spcAt_pos h hin.lt)), Nat.add_comm (fcAt raw j), chunkNr_eq h hw hin h1 hc hlo hhi,
    nrInEntry_eq h hw hin h1 hc hlo hhi]
  -- `chunkStart_eq` has the subtraction in its uint32 form
  rw [← wrap_sub hin.lo hcU, chunkStart_eq h hw hin.lt hin.lo hin.le_next (by omega)]

theorem getContainingChunks_spec (raw : List (Nat × Nat × Nat)) (h : RawOK raw) (cmax ca cb a b : Nat)
    (hw : NoWrap raw cmax) (h1 : 1 ≤ ca) (hab : a ≤ b) (hcab : ca ≤ cb) (hc : cb ≤ cmax)
    (ha1 : firstSampleOf raw ca ≤ a) (ha2 : a < firstSampleOf raw (ca + 1))
    (hb1 : firstSampleOf raw cb ≤ b) (hb2 : b < firstSampleOf raw (cb + 1)) :
    (Stsc.ofRaw raw).getContainingChunks a b =
      some ((List.range' ca (cb + 1 - ca)).map fun c => ⟨c, firstSampleOf raw c, spcOf raw c⟩) := by
  have h1b : 1 ≤ cb := Nat.le_trans h1 hcab
  obtain ⟨ja, hina⟩ := exists_inEntry h hw h1
  obtain ⟨jb, hinb⟩ := exists_inEntry h hw h1b
  have hcond : ¬ (a = 0 ∨ b < a) := by have := firstSampleOf_pos raw ca; omega
  have hcond2 : ¬ (spcAt raw ja = 0 ∨ spcAt raw jb = 0) := fun hc => hc.elim
    (Nat.ne_of_gt (spcAt_pos h hina.lt)) (Nat.ne_of_gt (spcAt_pos h hinb.lt))
  unfold Stsc.getContainingChunks
  rw [if_neg hcond]
  simp only [findEntryForSample_spec h hw hina ha1 ha2 (Nat.zero_le _),
    findEntryForSample_spec h hw hinb hb1 hb2 (InEntry.mono h hina hinb hcab), ofRaw_getElem? h hw hina.lt,
    ofRaw_getElem? h hw hinb.lt, Option.bind_eq_bind, Option.bind_some, if_neg hcond2,
    chunkNr_eq h hw hina h1 (by omega) ha1 ha2, chunkNr_eq h hw hinb h1b hc hb1 hb2, ofRaw_length h hw]
  rw [getContainingChunks_go_spec h hw cb hc _ _ _ _ (by omega) hina, List.nil_append]

/-- byte positions of a range -/
def positions (r : Nat × Nat) : List Nat := List.range' r.1 r.2

/-- naive: offset of sample `n` = offset of its chunk + sizes of the earlier samples of that chunk -/
def sampleOffset (raw : List (Nat × Nat × Nat)) (offs : List Nat) (sz : Stsz) (c n : Nat) : Nat :=
  offs.getD (c - 1) 0 + ((List.range' (firstSampleOf raw c) (n - firstSampleOf raw c)).map fun k =>
    if sz.uniform ≠ 0 then sz.uniform else sz.sizes.getD (k - 1) 0).sum

/-- the chunk (1-based) containing sample `n`, by naive walk over chunks 1..cmax -/
def chunkOfSample (raw : List (Nat × Nat × Nat)) (cmax n : Nat) : Nat :=
  ((List.range' 1 cmax).find? fun c => decide (n < firstSampleOf raw (c + 1))).getD 0

theorem sampleOffset_eq (raw : List (Nat × Nat × Nat)) (offs : List Nat) (sz : Stsz) (c n : Nat) :
    sampleOffset raw offs sz c n =
      offs.getD (c - 1) 0 + sz.sumSizes (firstSampleOf raw c) (n - firstSampleOf raw c) := rfl

theorem positions_append (o x y : Nat) : positions (o, x) ++ positions (o + x, y) = positions (o, x + y) :=
  List.range'_append_1

/-- the bytes of `k` consecutive samples of a chunk, sample by sample -/
theorem chunk_positions (sz : Stsz) (base s : Nat) : ∀ k lo, s ≤ lo →
    positions (base + sz.sumSizes s (lo - s), sz.sumSizes lo k) =
      (List.range' lo k).flatMap (fun n => positions (base + sz.sumSizes s (n - s), sz.sizeOf n)) := by
  intro k
  induction k with
  | zero => intro lo _; simp [Stsz.sumSizes_zero, positions]
  | succ k ih =>
    intro lo hlo
    rw [List.range'_succ, List.flatMap_cons, ← ih (lo + 1) (by omega), Stsz.sumSizes_succ_front, ← positions_append]
    congr 3
    rw [show lo + 1 - s = (lo - s) + 1 by omega, Stsz.sumSizes_succ_back, show s + (lo - s) = lo by omega]
    omega

theorem mapM_some {α β} (l : List α) (g : α → Option β) (g' : α → β) (hg : ∀ x ∈ l, g x = some (g' x)) :
    l.mapM g = some (l.map g') := by
  induction l with
  | nil => rfl
  | cons a t ih =>
    rw [List.mapM_cons, hg a (List.mem_cons_self), ih (fun x hx => hg x (List.mem_cons_of_mem _ hx))]
    rfl

theorem chunkOfSample_eq (raw : List (Nat × Nat × Nat)) {cmax c n : Nat} (h1 : 1 ≤ c) (hc : c ≤ cmax)
    (hlo : firstSampleOf raw c ≤ n) (hhi : n < firstSampleOf raw (c + 1)) : chunkOfSample raw cmax n = c := by
  unfold chunkOfSample
  rw [List.find?_range'_eq_some.2 ⟨by simpa using hhi, List.mem_range'_1.2 ⟨h1, by omega⟩, fun c' _ hc' => ?_⟩]
  · rfl
  · have := firstSampleOf_mono raw (c := c' + 1) (c' := c) hc'
    simp; omega

/-- `x` moved into `[a, e]` -/
def clamp (a e x : Nat) : Nat := max a (min e x)

theorem clamp_of_le {a e x : Nat} (h : x ≤ a) : clamp a e x = a :=
  Nat.max_eq_left (Nat.le_trans (Nat.min_le_right e x) h)
theorem clamp_of_ge {a e x : Nat} (h : e ≤ x) (hae : a ≤ e) : clamp a e x = e := by
  unfold clamp; rw [Nat.min_eq_left h, Nat.max_eq_right hae]
theorem clamp_of_mem {a e x : Nat} (h1 : a ≤ x) (h2 : x ≤ e) : clamp a e x = x := by
  unfold clamp; rw [Nat.min_eq_right h2, Nat.max_eq_right h1]
theorem clamp_le {a e x : Nat} (h : a ≤ x) : clamp a e x ≤ x := Nat.max_le.2 ⟨h, Nat.min_le_right e x⟩
theorem le_clamp {a e x : Nat} (h : x ≤ e) : x ≤ clamp a e x := by
  unfold clamp; rw [Nat.min_eq_right h]; exact Nat.le_max_right a x
theorem clamp_mono {a e x y : Nat} (h : x ≤ y) : clamp a e x ≤ clamp a e y :=
  Nat.max_le.2 ⟨Nat.le_max_left _ _,
    Nat.le_trans (Nat.le_min.2 ⟨Nat.min_le_left e x, Nat.le_trans (Nat.min_le_right e x) h⟩) (Nat.le_max_right _ _)⟩

/-- first sample of chunk `c`, cut to the interval `[a, b + 1]`: chunk `c` holds the samples
    `[cutAt raw a b c, cutAt raw a b (c + 1))` of the interval -/
def cutAt (raw : List (Nat × Nat × Nat)) (a b c : Nat) : Nat := clamp a (b + 1) (firstSampleOf raw c)

/-- the range `getRanges a b` reports for chunk `c` -/
def rangeOf (raw : List (Nat × Nat × Nat)) (offs : List Nat) (sz : Stsz) (a b c : Nat) : Nat × Nat :=
  (sampleOffset raw offs sz c (cutAt raw a b c), sz.sumSizes (cutAt raw a b c) (cutAt raw a b (c + 1) - cutAt raw a b c))

/-- The cut points of chunk `c`, one of the chunks `ca..cb` that hold `a..b`, are those of the Go loop (`a` in the first
    chunk, `b + 1` after the last, chunk boundaries in between), and they lie inside the chunk. -/
structure ChunkCut (raw : List (Nat × Nat × Nat)) (a b ca cb c : Nat) : Prop where
  lo_eq : cutAt raw a b c = if c = ca then a else firstSampleOf raw c
  hi_eq : cutAt raw a b (c + 1) = if c = cb then b + 1 else firstSampleOf raw (c + 1)
  first_le : firstSampleOf raw c ≤ cutAt raw a b c
  lo_le_hi : cutAt raw a b c ≤ cutAt raw a b (c + 1)
  hi_le : cutAt raw a b (c + 1) ≤ firstSampleOf raw (c + 1)

theorem cutAt_eq (raw : List (Nat × Nat × Nat)) {a b ca cb c : Nat} (hab : a ≤ b)
    (ha1 : firstSampleOf raw ca ≤ a) (ha2 : a < firstSampleOf raw (ca + 1))
    (hb1 : firstSampleOf raw cb ≤ b) (hb2 : b < firstSampleOf raw (cb + 1)) (h1 : ca ≤ c) (h2 : c ≤ cb) :
    ChunkCut raw a b ca cb c := by
  have hae : a ≤ b + 1 := Nat.le_succ_of_le hab
  have m1 : a ≤ firstSampleOf raw (c + 1) :=
    Nat.le_trans (Nat.le_of_lt ha2) (firstSampleOf_mono raw (Nat.succ_le_succ h1))
  have m2 : firstSampleOf raw c ≤ b + 1 := Nat.le_trans (firstSampleOf_mono raw h2) (Nat.le_succ_of_le hb1)
  refine {
    lo_eq := ?_
    hi_eq := ?_
    first_le := le_clamp m2
    lo_le_hi := clamp_mono (firstSampleOf_le_succ raw c)
    hi_le := clamp_le m1 }
  · split
    · rename_i e; subst e; exact clamp_of_le ha1
    · exact clamp_of_mem (Nat.le_trans (Nat.le_of_lt ha2) (firstSampleOf_mono raw (by omega))) m2
  · split
    · rename_i e; subst e; exact clamp_of_ge hb2 hae
    · exact clamp_of_mem m1 (Nat.le_trans (firstSampleOf_mono raw (c' := cb) (by omega)) (Nat.le_succ_of_le hb1))

/-- `getRanges a b` chunk by chunk: each of the chunks `ca..cb` that hold the samples `a..b` gives one range, `rangeOf`.
    `hN` and `hbytes` are hypotheses of `getRanges_spec` handed on: `hN` says the chunks of stsc (one per chunk offset)
    hold exactly the samples of stsz; `hbytes` keeps the uint64 sum "chunk offset + sizes of the samples skipped" from
    wrapping, any sum of sample sizes being at most `sampleNumber * maxSize` (`Stsz.sumSizes_le`). -/
theorem getRanges_eq (t : Tables) (raw : List (Nat × Nat × Nat)) (hraw : t.stsc = Stsc.ofRaw raw) (h : RawOK raw)
    (hw : NoWrap raw t.offsets.length) (hok : t.stsz.OK)
    (hN : firstSampleOf raw (t.offsets.length + 1) = t.stsz.sampleNumber + 1)
    (hbytes : ∀ c, 1 ≤ c → c ≤ t.offsets.length →
       t.offsets.getD (c - 1) 0 + t.stsz.sampleNumber * t.stsz.maxSize < U64)
    {a b ca cb : Nat} (h1 : 1 ≤ a) (hab : a ≤ b) (hb : b ≤ t.stsz.sampleNumber) (hca : 1 ≤ ca) (hcab : ca ≤ cb)
    (hcb : cb ≤ t.offsets.length)
    (ha1 : firstSampleOf raw ca ≤ a) (ha2 : a < firstSampleOf raw (ca + 1))
    (hb1 : firstSampleOf raw cb ≤ b) (hb2 : b < firstSampleOf raw (cb + 1)) :
    t.getRanges a b = some ((List.range' ca (cb + 1 - ca)).map (rangeOf raw t.offsets t.stsz a b)) := by
  unfold Tables.getRanges
  rw [if_neg (by unfold Stsz.nrSamples; omega), hraw,
    getContainingChunks_spec raw h _ ca cb a b hw hca hab hcab hcb ha1 ha2 hb1 hb2]
  simp only [Option.bind_eq_bind, Option.bind_some, List.length_map, List.length_range']
  conv => rhs; rw [List.range'_eq_map_range, List.map_map]
  apply mapM_some
  intro idx hidx
  rw [List.mem_range] at hidx
  rw [List.getElem?_map, List.getElem?_range' hidx]
  simp only [Option.map_some, Option.bind_some, Function.comp_apply, Nat.one_mul]
  -- chunk `ca + idx`; it is the first one iff `idx = 0`, the last one iff `idx` is the last index
  have hcb' : ca + idx ≤ cb := Nat.le_of_lt_succ (Nat.lt_sub_iff_add_lt'.1 hidx)
  have hfirst : ca + idx = ca ↔ idx = 0 := Nat.add_eq_left
  have hlast : ca + idx = cb ↔ idx = cb + 1 - ca - 1 := by
    rw [Nat.sub_right_comm, Nat.add_sub_cancel]  -- the right side is `cb - ca`
    exact ⟨fun h => h ▸ (Nat.add_sub_cancel_left ..).symm, fun h => h ▸ Nat.add_sub_cancel' hcab⟩
  have hc1 : 1 ≤ ca + idx := Nat.le_trans hca (Nat.le_add_right _ _)
  have hcL : ca + idx ≤ t.offsets.length := Nat.le_trans hcb' hcb
  have hbc := hbytes _ hc1 hcL
  have hcut := cutAt_eq raw hab ha1 ha2 hb1 hb2 (Nat.le_add_right ca idx) hcb'
  have hlo := hcut.lo_eq
  have hhi := hcut.hi_eq
  simp only [hfirst] at hlo
  simp only [hlast] at hhi
  rw [getOffset_eq t.offsets hc1 hcL]
  generalize ca + idx = c at *
  have hpos := firstSampleOf_pos raw c
  have hmN : firstSampleOf raw (c + 1) ≤ t.stsz.sampleNumber + 1 := hN ▸ firstSampleOf_mono raw (Nat.succ_le_succ hcL)
  have hend : (if idx = cb + 1 - ca - 1 then b else (firstSampleOf raw c + spcOf raw c + U32 - 1) % U32) =
      cutAt raw a b (c + 1) - 1 := by
    rw [hhi]
    split
    · rfl
    · rw [← firstSampleOf_succ raw hc1]
      exact wrap_sub (firstSampleOf_pos raw _) (firstSampleOf_lt_U32 hw (Nat.succ_le_succ hcL))
  have hsize := getTotalSampleSize_eq_sumSizes t.stsz hok (Nat.le_trans hpos hcut.first_le) hcut.lo_le_hi (Nat.le_trans hcut.hi_le hmN)
  have hcN : cutAt raw a b c ≤ t.stsz.sampleNumber + 1 := Nat.le_trans hcut.lo_le_hi (Nat.le_trans hcut.hi_le hmN)
  have hup := t.stsz.sumSizes_le (firstSampleOf raw c) (k := cutAt raw a b c - firstSampleOf raw c)
    (N := t.stsz.sampleNumber) (Nat.sub_le_of_le_add (Nat.le_trans hcN (Nat.add_le_add_left hpos _)))
  simp only [Option.bind_some, hend, rangeOf, sampleOffset_eq]
  by_cases h0 : idx = 0
  · -- first chunk: the samples before `a` are skipped
    rw [if_pos h0] at hlo
    rw [hlo] at hsize hup ⊢
    rw [if_pos h0, getTotalSampleSize_eq_sumSizes t.stsz hok hpos (hlo ▸ hcut.first_le) (Nat.le_succ_of_le (Nat.le_trans hab hb))]
    simp only [Option.bind_some, Option.pure_def, hsize]
    rw [Nat.mod_eq_of_lt (Nat.lt_of_le_of_lt (Nat.add_le_add_left hup _) hbc)]
  · rw [if_neg h0] at hlo
    rw [hlo] at hsize ⊢
    rw [if_neg h0]
    simp only [Option.bind_some, Option.pure_def, hsize, Nat.sub_self, Stsz.sumSizes_zero, Nat.add_zero]

theorem getRanges_spec (t : Tables) (raw : List (Nat × Nat × Nat)) (hraw : t.stsc = Stsc.ofRaw raw) (h : RawOK raw)
    (hw : NoWrap raw t.offsets.length)
    (hsz : (t.stsz.uniform = 0 → t.stsz.sizes.length = t.stsz.sampleNumber) ∧ (t.stsz.uniform ≠ 0 → t.stsz.sizes = []))
    (hN : firstSampleOf raw (t.offsets.length + 1) = t.stsz.sampleNumber + 1)
    (hbytes : ∀ c, 1 ≤ c → c ≤ t.offsets.length →
       t.offsets.getD (c - 1) 0 + t.stsz.sampleNumber * (if t.stsz.uniform ≠ 0 then t.stsz.uniform else t.stsz.sizes.foldl max 0) < U64)
    (a b : Nat) (h1 : 1 ≤ a) (hab : a ≤ b) (hb : b ≤ t.stsz.sampleNumber) :
    ∃ rs, t.getRanges a b = some rs ∧
      rs.flatMap positions =
        (List.range' a (b + 1 - a)).flatMap fun n =>
          positions (sampleOffset raw t.offsets t.stsz (chunkOfSample raw t.offsets.length n) n,
                     if t.stsz.uniform ≠ 0 then t.stsz.uniform else t.stsz.sizes.getD (n - 1) 0) := by
  have hL : 1 ≤ t.offsets.length := fcAt_zero h ▸ fcAt_le_cmax hw (raw_length_pos h)
  have hok : t.stsz.OK := ⟨hsz.1, hsz.2, Nat.lt_of_le_of_lt (Nat.le_add_left _ _) (hbytes 1 (Nat.le_refl _) hL)⟩
  have hf1 : firstSampleOf raw 1 ≤ a := by rwa [firstSampleOf_one]
  obtain ⟨ca, hca1, hcaL, ha1, ha2⟩ := exists_cell (firstSampleOf raw) hf1 (Nat.le_add_left 1 _)
    (by rw [hN]; exact Nat.lt_succ_of_le (Nat.le_trans hab hb))
  obtain ⟨cb, hcb1, hcbL, hb1, hb2⟩ := exists_cell (firstSampleOf raw) (Nat.le_trans hf1 hab) (Nat.le_add_left 1 _)
    (by rw [hN]; exact Nat.lt_succ_of_le hb)
  have hcab : ca ≤ cb := by
    apply Nat.le_of_not_lt
    intro hlt
    have hm : firstSampleOf raw (cb + 1) ≤ firstSampleOf raw ca := firstSampleOf_mono raw hlt
    exact Nat.lt_irrefl b (Nat.lt_of_lt_of_le hb2 (Nat.le_trans hm (Nat.le_trans ha1 hab)))
  have hcbL' : cb ≤ t.offsets.length := Nat.le_of_lt_succ hcbL
  refine ⟨_, getRanges_eq t raw hraw h hw hok hN hbytes h1 hab hb hca1 hcab hcbL' ha1 ha2 hb1 hb2, ?_⟩
  have hcut := fun c => cutAt_eq raw (c := c) hab ha1 ha2 hb1 hb2
  -- the samples a..b, chunk by chunk
  have hsplit := flatMap_range'_cells (g := cutAt raw a b) (fun c => clamp_mono (firstSampleOf_le_succ raw c)) ca
    (cb + 1 - ca)
  rw [Nat.add_sub_cancel' (Nat.le_succ_of_le hcab), (hcut ca (Nat.le_refl ca) hcab).lo_eq, if_pos rfl,
    (hcut cb hcab (Nat.le_refl cb)).hi_eq, if_pos rfl] at hsplit
  rw [List.flatMap_map, ← hsplit, List.flatMap_assoc]
  apply flatMap_congr'
  intro c hc
  rw [List.mem_range'_1, Nat.add_sub_cancel' (Nat.le_succ_of_le hcab)] at hc
  have hcc := hcut c hc.1 (Nat.le_of_lt_succ hc.2)
  unfold rangeOf
  rw [sampleOffset_eq, chunk_positions t.stsz _ _ _ _ hcc.first_le]
  apply flatMap_congr'
  intro n hn
  rw [List.mem_range'_1, Nat.add_sub_cancel' hcc.lo_le_hi] at hn
  rw [chunkOfSample_eq raw (c := c) (Nat.le_trans hca1 hc.1) (Nat.le_trans (Nat.le_of_lt_succ hc.2) hcbL')
    (Nat.le_trans hcc.first_le hn.1) (Nat.lt_of_lt_of_le hn.2 hcc.hi_le)]
  rfl

end Mp4ff.Stbl
