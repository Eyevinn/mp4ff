import Mp4ff.Model.SampleTables
/-!
Cells of a monotone sequence.  Every sample-table query locates its argument `x` in a nondecreasing sequence `f`
(cumulative run counts, first chunks of the stsc entries, first samples of the chunks): it finds the cell `c` with
`f c ≤ x < f (c + 1)` and then computes inside that cell.  Here: a cell exists, the binary searches find it, and an
interval is the concatenation of its parts in consecutive cells.
-/
namespace Mp4ff.Stbl

theorem exists_cell (f : Nat → Nat) {lo a : Nat} (h1 : f lo ≤ a) : ∀ {hi}, lo ≤ hi → a < f hi →
    ∃ c, lo ≤ c ∧ c < hi ∧ f c ≤ a ∧ a < f (c + 1) := by
  intro hi
  induction hi with
  | zero => intro h0 h; rw [Nat.le_zero.1 h0] at h1; omega
  | succ m ih =>
    intro hle h
    rcases Nat.eq_or_lt_of_le hle with rfl | hlt
    · exact absurd h (Nat.not_lt_of_le h1)
    · rcases Nat.lt_or_ge a (f m) with ham | ham
      · obtain ⟨c, c1, c2, c3⟩ := ih (Nat.le_of_lt_succ hlt) ham
        exact ⟨c, c1, Nat.lt_succ_of_lt c2, c3⟩
      · exact ⟨m, Nat.le_of_lt_succ hlt, Nat.lt_succ_self m, ham, h⟩

/-- The partition-point search: `bsearchGE`, `Stsc.findEntryForSample.go` and `Stsc.findEntryForChunk.go` are this
    loop for the tests `x ≤ a[i]`, `s < firstSampleNr[i]`, `c < firstChunk[i]`. -/
def bsFirst (p : Nat → Bool) : Nat → Nat → Nat → Nat
  | 0, lo, _ => lo
  | fuel + 1, lo, hi =>
    if lo < hi then
      if p ((lo + hi) / 2) then bsFirst p fuel lo ((lo + hi) / 2) else bsFirst p fuel ((lo + hi) / 2 + 1) hi
    else lo

/-- If `p` is a threshold predicate at `k` on `[lo, hi)` (true from `k` on, false before) and `lo ≤ k ≤ hi`, the search
    returns `k`; the interval halves in every round, so fuel above its length is enough. -/
theorem bsFirst_eq (p : Nat → Bool) (k : Nat) : ∀ fuel lo hi, lo ≤ k → k ≤ hi → hi < lo + fuel →
    (∀ i, lo ≤ i → i < hi → (p i = true ↔ k ≤ i)) → bsFirst p fuel lo hi = k := by
  intro fuel
  induction fuel with
  | zero => intro lo hi hlo hhi hf; exact absurd (Nat.le_trans hlo hhi) (Nat.not_le.2 hf)
  | succ fuel ih =>
    intro lo hi hlo hhi hf hp
    unfold bsFirst
    by_cases hlt : lo < hi
    · rw [if_pos hlt]
      obtain ⟨h1, h2⟩ : lo ≤ (lo + hi) / 2 ∧ (lo + hi) / 2 < hi := by omega
      generalize (lo + hi) / 2 = m at h1 h2 ⊢
      have hm := hp m h1 h2
      obtain ⟨hfl, hfr⟩ : m < lo + fuel ∧ hi < m + 1 + fuel := by omega
      split
      · rename_i h
        exact ih lo m hlo (hm.1 h) hfl fun i hi1 hi2 => hp i hi1 (Nat.lt_trans hi2 h2)
      · rename_i h
        exact ih (m + 1) hi (Nat.lt_of_not_le (mt hm.2 h)) hhi hfr fun i hi1 hi2 =>
          hp i (Nat.le_trans (Nat.le_succ_of_le h1) hi1) hi2
    · rw [if_neg hlt]
      exact Nat.le_antisymm hlo (Nat.le_trans hhi (Nat.le_of_not_lt hlt))

theorem exists_threshold (p : Nat → Bool) : ∀ n, (∀ i j, i ≤ j → j < n → p i = true → p j = true) →
    ∃ k, k ≤ n ∧ ∀ i, i < n → (p i = true ↔ k ≤ i) := by
  intro n
  induction n with
  | zero => intro _; exact ⟨0, Nat.le_refl _, fun i h => absurd h (Nat.not_lt_zero i)⟩
  | succ n ih =>
    intro hm
    cases hn : p n with
    | false =>
      -- then `p` is false on all of `[0, n]`
      refine ⟨n + 1, Nat.le_refl _, fun i hi => ⟨fun h => ?_, fun h => by omega⟩⟩
      rw [hm i n (Nat.le_of_lt_succ hi) (Nat.lt_succ_self n) h] at hn
      cases hn
    | true =>
      obtain ⟨k, hk, hp⟩ := ih fun i j h1 h2 => hm i j h1 (Nat.lt_succ_of_lt h2)
      refine ⟨k, Nat.le_succ_of_le hk, fun i hi => ?_⟩
      rcases Nat.eq_or_lt_of_le (Nat.le_of_lt_succ hi) with rfl | hi'
      · exact ⟨fun _ => hk, fun _ => hn⟩
      · exact hp i hi'

theorem bsFirst_spec (p : Nat → Bool) (n : Nat) (hm : ∀ i j, i ≤ j → j < n → p i = true → p j = true) :
    bsFirst p (n + 1) 0 n ≤ n ∧ ∀ i, i < n → (p i = true ↔ bsFirst p (n + 1) 0 n ≤ i) := by
  obtain ⟨k, hk, hp⟩ := exists_threshold p n hm
  rw [bsFirst_eq p k (n + 1) 0 n (Nat.zero_le _) hk (by omega) fun i _ hi => hp i hi]
  exact ⟨hk, hp⟩

theorem bsearchGE_eq_bsFirst (a : List Nat) (x : Nat) : ∀ fuel i j,
    bsearchGE a x fuel i j = bsFirst (fun m => decide (x ≤ a.getD m 0)) fuel i j := by
  intro fuel
  induction fuel with
  | zero => intro i j; rfl
  | succ fuel ih =>
    intro i j
    simp only [bsearchGE, bsFirst, ih, decide_eq_true_eq, ← Nat.not_lt, ite_not]

theorem range'_append_sub {x y z : Nat} (h1 : x ≤ y) (h2 : y ≤ z) :
    List.range' x (y - x) ++ List.range' y (z - y) = List.range' x (z - x) := by
  have := List.range'_append_1 (s := x) (m := y - x) (n := z - y)
  rwa [Nat.add_sub_cancel' h1, Nat.add_comm (y - x), Nat.sub_add_sub_cancel h2 h1] at this

theorem le_of_steps {g : Nat → Nat} (hg : ∀ c, g c ≤ g (c + 1)) (c0 : Nat) : ∀ k, g c0 ≤ g (c0 + k)
  | 0 => Nat.le_refl _
  | k + 1 => Nat.le_trans (le_of_steps hg c0 k) (hg (c0 + k))

theorem flatMap_range'_cells {g : Nat → Nat} (hg : ∀ c, g c ≤ g (c + 1)) (c0 : Nat) : ∀ k,
    (List.range' c0 k).flatMap (fun c => List.range' (g c) (g (c + 1) - g c)) =
      List.range' (g c0) (g (c0 + k) - g c0) := by
  intro k
  induction k with
  | zero => simp
  | succ k ih =>
    rw [List.range'_concat, List.flatMap_append, ih, Nat.one_mul, List.flatMap_cons, List.flatMap_nil,
      List.append_nil, ← Nat.add_assoc]
    exact range'_append_sub (le_of_steps hg c0 k) (hg (c0 + k))

end Mp4ff.Stbl
