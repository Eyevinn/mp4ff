import Mp4ff.Lemmas.Esc
import Mp4ff.Lemmas.BitsReader
/-!
The emulation-preventing writer and reader against the plain ones: `EWRel` for the writer; for the reader, the refill loop
on `esc zc P` does what the plain one does on `P` (`ER.fill_refines`), so `ER.read_spec` is `BR.read_spec` with the
un-escaped payload `P` still to come as a ghost argument and the byte counter running over the escaped stream.
`ER.Reads` is `Reads` for this reader, with the same `pure`, `bind` and `reads_field`.
-/
namespace Mp4ff.Bits

/-- the EBSP writer is the plain writer with its output escaped -/
def EWRel (e : EW) (w : BW) : Prop :=
  e.n = w.n ∧ e.v = w.v ∧ e.out = esc 0 w.out ∧ e.nr0 = escState 0 w.out

theorem EWRel.out_eq {e : EW} {w : BW} (h : EWRel e w) : e.out = esc 0 w.out := h.2.2.1

/-- `emit` is one step of `esc` and `escState` on the output so far -/
theorem EW.emit_eq (out : Bytes) (b : Nat) :
    EW.emit (escState 0 out) (esc 0 out) b = (escState 0 (out ++ [b]), esc 0 (out ++ [b])) := by
  rw [esc_append, escState_append]
  unfold EW.emit
  simp only [esc, escState]
  generalize escState 0 out = z
  generalize esc 0 out = o
  by_cases hz : z = 2 <;> by_cases hb3 : b ≤ 3 <;> by_cases hb : b = 0 <;> simp [hz, hb3, hb]

theorem EW.drain_refines (v : Nat) : ∀ (n : Nat) (out : Bytes),
    EW.drain v n (escState 0 out) (esc 0 out) =
      ((BW.drain v n out).1, escState 0 (BW.drain v n out).2, esc 0 (BW.drain v n out).2) := by
  intro n
  induction n using Nat.strongRecOn with
  | _ n ih =>
    intro out
    unfold EW.drain BW.drain
    by_cases h : n ≥ 8
    · simp only [h, dite_true]
      rw [EW.emit_eq]
      exact ih (n - 8) (by omega) _
    · simp only [h, dite_false]

theorem EWRel.write (e : EW) (w : BW) (h : EWRel e w) (bits k : Nat) :
    EWRel (e.write bits k) (w.write bits k) := by
  obtain ⟨h1, h2, h3, h4⟩ := h
  unfold EW.write BW.write
  rw [h1, h2, h3, h4]
  simp only [EW.drain_refines]
  exact ⟨rfl, rfl, rfl, rfl⟩

theorem EWRel.init : EWRel {} {} := ⟨rfl, rfl, rfl, rfl⟩

theorem EWRel.writeAll (ops : List (Nat × Nat)) : ∀ (e : EW) (w : BW), EWRel e w →
    EWRel (e.writeAll ops) (w.writeAll ops) := by
  induction ops with
  | nil => intro e w h; exact h
  | cons kv rest ih =>
    intro e w h
    obtain ⟨k, v⟩ := kv
    exact ih _ _ (EWRel.write e w h v k)

theorem EW.writeAll_append (a b : List (Nat × Nat)) : ∀ w : EW, w.writeAll (a ++ b) = (w.writeAll a).writeAll b := by
  induction a with
  | nil => intro w; rfl
  | cons kv rest ih => intro w; exact ih _

/-- reader state over an escaped stream: `P` is the un-escaped payload still to come -/
def ER.Inv (e : ER) (P : Bytes) : Prop :=
  e.n < 8 ∧ e.v < 2 ^ e.n ∧ IsBytes P ∧ e.err = false ∧ e.zeroCount ≤ 2 ∧ e.rest = esc e.zeroCount P

def ER.abs (e : ER) (P : Bytes) : List Bool := lowBits e.n e.v ++ bitsOfBytes P

theorem ER.Inv.err {e : ER} {P : Bytes} (h : e.Inv P) : e.err = false := h.2.2.2.1

theorem ER.Inv.rest_eq {e : ER} {P : Bytes} (h : e.Inv P) : e.rest = esc e.zeroCount P := h.2.2.2.2.2

theorem ER.init_spec {P : Bytes} (h : IsBytes P) : ({ rest := esc 0 P } : ER).Inv P :=
  ⟨Nat.zero_lt_succ 7, Nat.zero_lt_one, h, rfl, Nat.zero_le 2, rfl⟩

/-- `nrPlain` counts bytes of `P` and plays no part; `nrEsc` counts bytes of the escaped stream, the `03`s included -/
theorem ER.fill_refines {k fuel n v nrPlain : Nat} {P : Bytes} {n' v' nrPlain' : Nat} {P' : Bytes} (nrEsc zc : Nat)
    (hzc : zc ≤ 2) (hfill : BR.fill k fuel n v nrPlain P = some (n', v', nrPlain', P')) :
    ∃ nrEsc' zc', ER.fill k fuel n v nrEsc zc (esc zc P) = .ok (n', v', nrEsc', zc', esc zc' P') ∧ zc' ≤ 2 ∧
      nrEsc' + (esc zc' P').length = nrEsc + (esc zc P).length := by
  induction fuel generalizing n v nrEsc zc nrPlain P with
  | zero =>
    unfold BR.fill at hfill
    unfold ER.fill
    split at hfill
    · cases hfill
    · cases hfill; exact ⟨nrEsc, zc, by simp [*], hzc, rfl⟩
  | succ fuel ih =>
    unfold BR.fill at hfill
    unfold ER.fill
    split at hfill
    · rename_i hnk
      simp only [hnk, if_true]
      cases P with
      | nil => cases hfill
      | cons b P1 =>
        simp only at hfill
        by_cases hesc : zc = 2 ∧ b ≤ 3
        · -- escaped: the stream holds 03 b
          obtain ⟨nrEsc', zc', h1, h2, h3⟩ := ih (nrEsc + 2) (if b = 0 then 1 else 0) (by split <;> decide) hfill
          refine ⟨nrEsc', zc', ?_, h2, ?_⟩
          · simp only [esc, hesc, and_self, if_true, ne_eq, ite_not]
            exact h1
          · simp only [esc, hesc, and_self, if_true, List.length_cons]; omega
        · obtain ⟨nrEsc', zc', h1, h2, h3⟩ :=
            ih (nrEsc + 1) (if b = 0 then zc + 1 else 0) (escNext_le hzc hesc) hfill
          have hne : ¬ (zc = 2 ∧ b = 3) := fun ⟨a1, a2⟩ => hesc ⟨a1, Nat.le_of_eq a2⟩
          refine ⟨nrEsc', zc', ?_, h2, ?_⟩
          · simp only [esc, hesc, hne, if_false, ne_eq, ite_not]
            exact h1
          · simp only [esc, hesc, if_false, List.length_cons]; omega
    · rename_i hnk
      cases hfill
      exact ⟨nrEsc, zc, by simp [hnk], hzc, rfl⟩

theorem ER.read_spec (e : ER) (P : Bytes) (k : Nat) (he : e.Inv P) (hk : k ≤ 56)
    (havail : k ≤ (e.abs P).length) :
    ∃ P', (e.read k).1.Inv P' ∧ (e.read k).1.abs P' = (e.abs P).drop k ∧
      lowBits k (e.read k).2 = (e.abs P).take k ∧ (e.read k).2 < 2 ^ k ∧
      (e.read k).1.nread + (e.read k).1.rest.length = e.nread + e.rest.length := by
  obtain ⟨hn, hv, hP, herr, hz, hrest⟩ := he
  have hlen : k ≤ e.n + 8 * P.length := by simpa [ER.abs] using havail
  -- the plain refill on `P`, bounded as in `ER.read` by `k / 8 + 1` rounds: each adds 8 bits, so that many exceed `k`
  obtain ⟨n', v', nrPlain', P', hb, hf⟩ := BR.fill_spec hk (k / 8 + 1) 0 hv (by omega) hP hlen (by omega)
  obtain ⟨nrEsc', zc', he, hz', hcount⟩ := ER.fill_refines e.nread e.zeroCount hz hb
  obtain ⟨hd, ht, hlt⟩ := acc_split hf.enough hf.acc_lt (bitsOfBytes P')
  rw [hf.bits] at hd ht
  refine ⟨P', ?_⟩
  unfold ER.read
  rw [hrest]
  simp only [herr, Bool.false_eq_true, if_false, he]
  exact ⟨⟨Nat.sub_lt_left_of_lt_add hf.enough hf.surplus, and_mask_lt _ _, hf.bytes, rfl, hz', rfl⟩,
    hd, ht, hlt, hcount⟩

abbrev ER.Dec := DecOn ER

open Dec

/-- `Reads` for the un-escaping reader: `d`, run on a reader whose pending payload bits begin with `bs`, returns `a`,
    leaves exactly what follows `bs`, and has counted the bytes of the escaped stream it took. The payload still to
    come is a ghost argument of `ER.Inv` and `ER.abs`, so it is quantified on the way in and on the way out.
    Used as `Reads` is: a decoder that is a chain of reads is one `.bind` per element (`readBytes_spec` in
    Lemmas/SeiFraming.lean); one that tests `err` between its reads (`ReadExpGolomb`) is stepped through, and the
    `Inv` obtained after each step decides the test. -/
def ER.Reads {α : Type} (d : ER.Dec α) (bs : List Bool) (a : α) : Prop :=
  ∀ ⦃e : ER⦄ ⦃P : Bytes⦄ ⦃tail : List Bool⦄, e.Inv P → e.abs P = bs ++ tail →
    ∃ e' P', d e = (e', a) ∧ e'.Inv P' ∧ e'.abs P' = tail ∧ e'.nread + e'.rest.length = e.nread + e.rest.length

theorem ER.Reads.pure {α : Type} {a b : α} (h : a = b) : ER.Reads (pure a) [] b :=
  fun e P _ he habs => ⟨e, P, by rw [h]; rfl, he, habs, rfl⟩

theorem ER.Reads.bind {α β : Type} {d : ER.Dec α} {f : α → ER.Dec β} {bs cs : List Bool} {a : α} {b : β}
    (hd : ER.Reads d bs a) (hf : ER.Reads (f a) cs b) : ER.Reads (d >>= f) (bs ++ cs) b := by
  intro e P tail he habs
  rw [List.append_assoc] at habs
  obtain ⟨e1, P1, q1, i1, a1, n1⟩ := hd he habs
  obtain ⟨e2, P2, q2, i2, a2, n2⟩ := hf i1 a1
  exact ⟨e2, P2, by rw [Dec.bind_apply, q1, q2], i2, a2, n2.trans n1⟩

theorem ER.Reads.map {α β : Type} {d : ER.Dec α} {bs : List Bool} {a : α} (h : ER.Reads d bs a) (g : α → β) :
    ER.Reads (g <$> d) bs (g a) := by
  have := h.bind (f := fun x => Pure.pure (g x)) (.pure rfl)
  rwa [List.append_nil] at this

theorem ER.reads_field {k v : Nat} (hv : v < 2 ^ k) (hk : k ≤ 56) : ER.Reads (fun e => e.read k) (lowBits k v) v := by
  intro e P tail he habs
  obtain ⟨P', i, hd, ht, hlt, n⟩ := ER.read_spec e P k he hk (by rw [habs]; simp)
  rw [habs, List.drop_left' (lowBits_length k v)] at hd
  rw [habs, List.take_left' (lowBits_length k v)] at ht
  exact ⟨(e.read k).1, P', by rw [← eq_of_lowBits_eq hlt hv ht], i, hd, n⟩

theorem ER.reads_bit (b : Bool) : ER.Reads (fun e => e.read 1) [b] (if b then 1 else 0) := by
  cases b
  · exact ER.reads_field (k := 1) (v := 0) (by decide) (by decide)
  · exact ER.reads_field (k := 1) (v := 1) (by decide) (by decide)

theorem ER.reads_flag (b : Bool) : ER.Reads ER.readFlag [b] b := by
  cases b <;> exact (ER.reads_bit _).map fun v => decide (v = 1)

theorem ER.read_bit_nil {e : ER} {P : Bytes} (he : e.Inv P) (habs : e.abs P = []) : (e.read 1).1.err = true := by
  have hlen := congrArg List.length habs
  simp only [ER.abs, List.length_append, lowBits_length, bitsOfBytes_length, List.length_nil] at hlen
  obtain rfl : P = [] := List.eq_nil_of_length_eq_zero (by omega)
  have hrest := he.rest_eq
  simp only [esc] at hrest
  simp [ER.read, he.err, ER.fill, show e.n = 0 by omega, hrest]

theorem ER.Inv.rest_length_ge {e : ER} {P : Bytes} (h : e.Inv P) : P.length ≤ e.rest.length := by
  rw [h.rest_eq, esc_length]
  omega

theorem ER.Inv.abs_length_le {e : ER} {P : Bytes} (h : e.Inv P) : (e.abs P).length ≤ e.bitsLeft := by
  have := h.rest_length_ge
  simp only [ER.abs, ER.bitsLeft, List.length_append, lowBits_length, bitsOfBytes_length]
  omega

end Mp4ff.Bits
