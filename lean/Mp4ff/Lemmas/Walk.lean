import Mp4ff.Model.Walk
import Mp4ff.Lemmas.Basics
/-!
The structural walk (Model/Walk.lean, C04) is bounded by its input: a box costs at least 8 bytes, so there are at most an
eighth as many nodes as bytes, and a fuel of `length + 2` never runs out.  Both are read off one invariant (`walk_inv`).
-/
namespace Mp4ff.Walk

theorem header_some {bs : Bytes} {pos : Nat} {ty : String} {size hl : Nat}
    (h : header bs pos = some (ty, size, hl)) :
    pos + hl ≤ bs.length ∧ 8 ≤ hl ∧ hl ≤ size := by
  unfold header at h
  obtain ⟨c0, h⟩ := ite_ne_left h nofun
  -- large size or not, two more checks follow
  by_cases c1 : beVal ((bs.drop pos).take 4) = 1 <;> simp only [c1, if_true, if_false] at h <;>
  · obtain ⟨c2, h⟩ := ite_ne_left h nofun
    obtain ⟨c3, h⟩ := ite_ne_left h nofun
    cases h
    omega

theorem count_mk (ty : String) (size : Nat) (kids : List Node) :
    (Node.mk ty size kids).count = 1 + countAll kids := by
  simp [Node.count]

theorem countAll_nil : countAll [] = 0 := by simp [countAll]
theorem countAll_cons (n : Node) (ns : List Node) : countAll (n :: ns) = n.count + countAll ns := by
  simp [countAll]

/-- The one invariant of the walk, for boxes and for lists of children.  A result is inside the input and pays 8 bytes per
    box; and it is obtained again with every fuel `f` that is at least the fuel `g` it was obtained with, or at least a
    quarter of what is left of the input (a box uses up one step and at least 8 bytes, a list of children one step per child
    and one at its end).  The second part needs the first for the sub-results, hence one induction. -/
theorem walk_inv (g : Nat) :
    (∀ (bs : Bytes) (pos : Nat) (n : Node) (p : Nat), decodeBox g bs pos = some (n, p) →
      (pos + 8 ≤ p ∧ p ≤ bs.length ∧ pos + n.count * 8 ≤ p) ∧
      ∀ f, g ≤ f ∨ bs.length ≤ pos + 4 * f → decodeBox f bs pos = some (n, p)) ∧
    (∀ (bs : Bytes) (rpos left : Nat) (ns : List Node) (p : Nat), rpos ≤ bs.length →
      decodeChildren g bs rpos left = some (ns, p) →
      (rpos ≤ p ∧ p ≤ bs.length ∧ rpos + countAll ns * 8 ≤ p) ∧
      ∀ f, g ≤ f ∨ bs.length + 4 ≤ rpos + 4 * f → decodeChildren f bs rpos left = some (ns, p)) := by
  induction g with
  | zero => exact ⟨fun _ _ _ _ h => by simp [decodeBox] at h, fun _ _ _ _ _ _ h => by simp [decodeChildren] at h⟩
  | succ g ih =>
    obtain ⟨ihB, ihC⟩ := ih
    -- the fuels the second parts speak of are successors: `g + 1` is one, and with fuel 0 the other bound leaves no input
    have fuel_succ : ∀ {f a b : Nat}, a < b → g + 1 ≤ f ∨ b ≤ a + 4 * f → ∃ f', f = f' + 1 :=
      fun _ _ => Nat.exists_eq_add_one.2 (by omega)
    constructor
    · intro bs pos n p h
      rw [decodeBox] at h
      cases hh : header bs pos with
      | none => rw [hh] at h; cases h
      | some t =>
        obtain ⟨ty, size, hl⟩ := t
        simp only [hh] at h
        have ⟨h1, h2, h3⟩ := header_some hh
        obtain ⟨c1, h⟩ := ite_ne_left h nofun
        by_cases c2 : plainContainers.contains ty = true
        · rw [if_pos c2] at h
          cases hc : decodeChildren g bs (pos + hl) (size - 8) with
          | none => rw [hc] at h; cases h
          | some q =>
            rw [hc] at h
            cases h
            obtain ⟨bK, fK⟩ := ihC _ _ _ _ _ h1 hc
            refine ⟨by rw [count_mk]; omega, fun f hf => ?_⟩
            obtain ⟨f, rfl⟩ := fuel_succ (by omega) hf
            simp only [decodeBox, hh, if_neg c1, if_pos c2, fK f (by omega)]
        · rw [if_neg c2] at h
          obtain ⟨c3, h⟩ := ite_ne_left h nofun
          cases h
          refine ⟨by rw [count_mk, countAll_nil]; omega, fun f hf => ?_⟩
          obtain ⟨f, rfl⟩ := fuel_succ (by omega) hf
          simp only [decodeBox, hh, if_neg c1, if_neg c2, if_neg c3]
    · intro bs rpos left ns p hr h
      rw [decodeChildren] at h
      by_cases c0 : left = 0
      · rw [if_pos c0] at h
        cases h
        refine ⟨by rw [countAll_nil]; omega, fun f hf => ?_⟩
        obtain ⟨f, rfl⟩ := fuel_succ (by omega) hf
        simp only [decodeChildren, if_pos c0]
      rw [if_neg c0] at h
      cases hb : decodeBox g bs rpos with
      | none => rw [hb] at h; cases h
      | some q =>
        obtain ⟨n, rpos'⟩ := q
        simp only [hb] at h
        obtain ⟨⟨b1, b2, b3⟩, fB⟩ := ihB _ _ _ _ hb
        obtain ⟨c1, h⟩ := ite_ne_left h nofun
        obtain ⟨c2, h⟩ := ite_ne_left h nofun
        cases hc : decodeChildren g bs rpos' (left - n.size) with
        | none => rw [hc] at h; cases h
        | some q =>
          rw [hc] at h
          cases h
          obtain ⟨bK, fK⟩ := ihC _ _ _ _ _ b2 hc
          refine ⟨by rw [countAll_cons]; omega, fun f hf => ?_⟩
          obtain ⟨f, rfl⟩ := fuel_succ (by omega) hf
          simp only [decodeChildren, if_neg c0, fB f (by omega), if_neg c1, if_neg c2, fK f (by omega)]

theorem decodeFile_bound (bs : Bytes) (f : Nat) : ∀ (pos : Nat) (ns : List Node),
    decodeFile f bs pos = some ns → countAll ns * 8 ≤ bs.length - pos := by
  induction f with
  | zero => intro pos ns h; simp [decodeFile] at h
  | succ f ih =>
    intro pos ns h
    simp only [decodeFile] at h
    split at h
    · simp only [Option.some.injEq] at h
      subst h
      rw [countAll_nil]; omega
    · split at h
      · simp at h
      · rename_i n pos' hb
        have ⟨b1, b2, b3⟩ := ((walk_inv _).1 _ _ _ _ hb).1
        split at h
        · rename_i ns' hf
          simp only [Option.some.injEq] at h
          subst h
          have := ih _ _ hf
          rw [countAll_cons]
          omega
        · simp at h

theorem decodeBox_bound (f : Nat) (bs : Bytes) (pos : Nat) (n : Node) (p : Nat)
    (h : decodeBox f bs pos = some (n, p)) : pos + 8 ≤ p ∧ p ≤ bs.length ∧ n.count * 8 ≤ p - pos := by
  have := ((walk_inv f).1 bs pos n p h).1
  omega

theorem decodeChildren_bound (f : Nat) (bs : Bytes) (rpos left : Nat) (ns : List Node) (p : Nat)
    (hr : rpos ≤ bs.length) (h : decodeChildren f bs rpos left = some (ns, p)) :
    rpos ≤ p ∧ p ≤ bs.length ∧ countAll ns * 8 ≤ p - rpos := by
  have := ((walk_inv f).2 bs rpos left ns p hr h).1
  omega

theorem walk_count_bound (bs : Bytes) (ns : List Node) (h : walk bs = some ns) : countAll ns * 8 ≤ bs.length := by
  have := decodeFile_bound bs _ 0 ns h
  omega

theorem decodeBox_fuel_mono (f g : Nat) (hfg : f ≤ g) (bs : Bytes) (pos : Nat) (r : Node × Nat)
    (h : decodeBox f bs pos = some r) : decodeBox g bs pos = some r :=
  ((walk_inv f).1 bs pos r.1 r.2 h).2 g (Or.inl hfg)

theorem decodeBox_fuel_sufficient (g : Nat) (bs : Bytes) (pos : Nat) (r : Node × Nat)
    (h : decodeBox g bs pos = some r) : decodeBox (bs.length + 2) bs pos = some r :=
  ((walk_inv g).1 bs pos r.1 r.2 h).2 _ (Or.inr (by omega))

end Mp4ff.Walk
