import Mp4ff.Model.Segments
/-!
How `File.AddChild` groups the top-level boxes into segments and fragments, and what `UpdateSidx` reads off the result.
`addChild` is taken apart once, in `addChild_step`: a box leaves the segments alone, or is a styp and opens one, or is
put into the last one, possibly opened at the box (`Step`, `SegsStep`; `PutsIn` for what happens inside the segment). The theorems
about moofs, segment counts and tiling are folds of a per-box fact read off `Step`, with `Tiles` the invariant behind
the UpdateSidx theorems. What `startSegmentIfNeeded` decides matters only for the number of segments a moof leaves
(`addChild_moof_length`); under top-level sidx boxes the decision is `sidxStart_spec`.
-/
namespace Mp4ff.Segments

/-- all moof start positions held by the segments, flattened in segment/fragment order -/
def moofsOf (st : St) : List Nat := st.segs.flatMap fun s => s.frags.filterMap (·.moof)

def nrFrags (st : St) : Nat := (st.segs.map fun s => s.frags.length).sum

/-- the last fragment has no moof yet (an emsg opened it): the moof case of `File.AddChild` then puts the moof there
    without asking `startSegmentIfNeeded` -/
def isOpen (st : St) : Bool :=
  match st.segs.getLast? with
  | some s => match s.frags.getLast? with
    | some f => f.moof.isNone
    | none => false
  | none => false

/-- the moof case of `File.AddChild`: a new fragment unless the last one still waits for its moof -/
def ensureMoofFrag (pos : Nat) (s : Seg) : Seg :=
  match s.frags.getLast? with
  | some f => if f.moof.isSome then { s with frags := s.frags ++ [{ startPos := pos }] } else s
  | none => { s with frags := [{ startPos := pos }] }

/-- `Fragment.AddChild` on the last fragment -/
def put (it : Item) (s : Seg) : Seg := updLastFrag s (·.addBox it)

/-- `f` on the last element: the list function inside `updLastSeg` and `updLastFrag` -/
def updLast (f : α → α) (l : List α) : List α :=
  match l.reverse with
  | [] => l
  | x :: rest => (f x :: rest).reverse

theorem updLastSeg_eq (st : St) (f : Seg → Seg) : updLastSeg st f = { st with segs := updLast f st.segs } := by
  unfold updLastSeg updLast; cases st.segs.reverse <;> rfl

theorem updLastFrag_eq (s : Seg) (f : Frag → Frag) : updLastFrag s f = { s with frags := updLast f s.frags } := by
  unfold updLastFrag updLast; cases s.frags.reverse <;> rfl

theorem updLast_concat (f : α → α) (init : List α) (x : α) : updLast f (init ++ [x]) = init ++ [f x] := by
  simp [updLast]

theorem updLast_cases (f : α → α) (l : List α) :
    l = [] ∧ updLast f l = [] ∨ ∃ init x, l = init ++ [x] ∧ updLast f l = init ++ [f x] := by
  cases h : l.getLast? with
  | none => rw [List.getLast?_eq_none_iff.mp h]; exact .inl ⟨rfl, rfl⟩
  | some x =>
    obtain ⟨init, rfl⟩ := List.getLast?_eq_some_iff.mp h
    exact .inr ⟨init, x, rfl, updLast_concat f init x⟩

theorem updLast_length (f : α → α) (l : List α) : (updLast f l).length = l.length := by
  rcases updLast_cases f l with ⟨rfl, h⟩ | ⟨init, x, rfl, h⟩ <;> simp [h]

theorem updLast_updLast (f g : α → α) (l : List α) : updLast g (updLast f l) = updLast (fun x => g (f x)) l := by
  rcases updLast_cases f l with ⟨rfl, -⟩ | ⟨init, x, rfl, h⟩
  · rfl
  · rw [h, updLast_concat, updLast_concat]

theorem updLastSeg_sidxs (st : St) (f : Seg → Seg) : (updLastSeg st f).sidxs = st.sidxs := by rw [updLastSeg_eq]
theorem updLastSeg_tfra (st : St) (f : Seg → Seg) : (updLastSeg st f).tfra = st.tfra := by rw [updLastSeg_eq]
theorem updLastSeg_startOnMoof (st : St) (f : Seg → Seg) : (updLastSeg st f).startOnMoof = st.startOnMoof := by
  rw [updLastSeg_eq]

theorem updLastSeg_comp (st : St) (f g : Seg → Seg) :
    updLastSeg (updLastSeg st f) g = updLastSeg st (fun s => g (f s)) := by
  simp only [updLastSeg_eq, updLast_updLast]

theorem updLastFrag_startPos (s : Seg) (f : Frag → Frag) : (updLastFrag s f).startPos = s.startPos := by
  rw [updLastFrag_eq]
theorem updLastFrag_hasStyp (s : Seg) (f : Frag → Frag) : (updLastFrag s f).hasStyp = s.hasStyp := by
  rw [updLastFrag_eq]
theorem updLastFrag_stypSize (s : Seg) (h : Frag → Frag) : (updLastFrag s h).stypSize = s.stypSize := by
  rw [updLastFrag_eq]

theorem updLastFrag_size (s : Seg) (f : Frag → Frag) (it : Item) (hf : ∀ x, (f x).children = x.children ++ [it])
    (hne : s.frags ≠ []) : (updLastFrag s f).size = s.size + it.size := by
  rcases updLast_cases f s.frags with ⟨h0, -⟩ | ⟨init, x, h0, e⟩
  · exact absurd h0 hne
  · rw [updLastFrag_eq, e]
    simp [Seg.size, h0, Frag.size, hf]
    omega

theorem startIfNeeded_cases (st : St) (pos : Nat) :
    startIfNeeded st pos = st ∨ startIfNeeded st pos = { st with segs := st.segs ++ [{ startPos := pos }] } := by
  -- stated for any condition, so that `split` takes the outer `if` and not the ones inside the decision
  have (c : Prop) [Decidable c] (a : St) : (if c then a else st) = st ∨ (if c then a else st) = a := by
    split <;> simp
  exact this _ _

theorem startIfNeeded_sidxs (st : St) (pos : Nat) : (startIfNeeded st pos).sidxs = st.sidxs := by
  rcases startIfNeeded_cases st pos with h | h <;> rw [h]
theorem startIfNeeded_tfra (st : St) (pos : Nat) : (startIfNeeded st pos).tfra = st.tfra := by
  rcases startIfNeeded_cases st pos with h | h <;> rw [h]
theorem startIfNeeded_startOnMoof (st : St) (pos : Nat) : (startIfNeeded st pos).startOnMoof = st.startOnMoof := by
  rcases startIfNeeded_cases st pos with h | h <;> rw [h]
theorem startIfNeeded_length (st : St) (pos : Nat) : st.segs.length ≤ (startIfNeeded st pos).segs.length := by
  rcases startIfNeeded_cases st pos with h | h <;> rw [h] <;> simp
theorem startIfNeeded_moofs (st : St) (pos : Nat) : moofsOf (startIfNeeded st pos) = moofsOf st := by
  rcases startIfNeeded_cases st pos with h | h <;> rw [h]
  simp [moofsOf]

theorem startIfNeeded_default (st : St) (pos : Nat) (hs : st.sidxs = []) (ht : st.tfra = none)
    (hf : st.startOnMoof = false) (hne : st.segs ≠ []) : startIfNeeded st pos = st := by
  simp [startIfNeeded, hs, ht, hf, hne]

theorem startIfNeeded_of_startOnMoof (st : St) (pos : Nat) (hs : st.sidxs = []) (ht : st.tfra = none)
    (hf : st.startOnMoof = true) : (startIfNeeded st pos).segs = st.segs ++ [{ startPos := pos }] := by
  simp [startIfNeeded, hs, ht, hf]

theorem addBox_moof {it : Item} (hk : it.kind = .moof) (f : Frag) :
    f.addBox it = { f with moof := some it.pos, children := f.children ++ [it] } := by
  simp [Frag.addBox, hk]

theorem addBox_other {it : Item} (hk : it.kind ≠ .moof) (f : Frag) :
    f.addBox it = { f with children := f.children ++ [it] } := by
  simp [Frag.addBox, hk]

theorem addChild_moof {st st' : St} {it : Item} {sidxOf : Item → Option Sidx} (hk : it.kind = .moof)
    (h : addChild st it sidxOf = some st') :
    (if isOpen st then st else startIfNeeded st it.pos).segs ≠ [] ∧
    st' = updLastSeg (if isOpen st then st else startIfNeeded st it.pos)
      fun s => put it (ensureMoofFrag it.pos s) := by
  simp only [addChild, hk, updLastSeg_comp, Option.ite_none_left_eq_some, Option.some.injEq, ← addBox_moof hk] at h
  exact ⟨h.1, h.2.symm⟩

theorem addChild_moof_length {st st' : St} {it : Item} {sidxOf : Item → Option Sidx} (hk : it.kind = .moof)
    (h : addChild st it sidxOf = some st') :
    st'.segs.length = (if isOpen st then st else startIfNeeded st it.pos).segs.length := by
  rw [(addChild_moof hk h).2, updLastSeg_eq, updLast_length]

/-- `s'` is `s` after `File.AddChild` put box `it` into it: `Fragment.AddChild` on the last fragment (for a moof: one
    that has no moof yet) or on a new fragment starting at the box -/
inductive PutsIn (it : Item) (s : Seg) : Seg → Prop
  | last {fr : List Frag} {f : Frag} : s.frags = fr ++ [f] → (it.kind = .moof → f.moof = none) →
      PutsIn it s { s with frags := fr ++ [f.addBox it] }
  | fresh : PutsIn it s { s with frags := s.frags ++ [Frag.addBox { startPos := it.pos } it] }

theorem PutsIn.of_put {it : Item} {s : Seg} (hne : s.frags ≠ [])
    (hm : it.kind = .moof → ∀ f ∈ s.frags.getLast?, f.moof = none) : PutsIn it s (put it s) := by
  rcases updLast_cases (·.addBox it) s.frags with ⟨h, -⟩ | ⟨fr, f, h, e⟩
  · exact absurd h hne
  · rw [put, updLastFrag_eq, e]
    exact .last h fun hk => hm hk f (by simp [h])

theorem PutsIn.of_ensureMoofFrag (it : Item) (s : Seg) : PutsIn it s (put it (ensureMoofFrag it.pos s)) := by
  rw [ensureMoofFrag]
  split
  · rename_i f h
    split
    · rw [put, updLastFrag_eq, updLast_concat]
      exact .fresh
    · rename_i hm
      refine PutsIn.of_put (fun h0 => by simp [h0] at h) fun _ f' hf' => ?_
      rw [h] at hf'; cases hf'
      simpa using hm
  · rename_i h
    have := PutsIn.fresh (it := it) (s := s)
    rwa [List.getLast?_eq_none_iff.mp h] at this

theorem PutsIn.moofs {it : Item} {s s' : Seg} (h : PutsIn it s s') :
    s'.frags.filterMap (·.moof) = s.frags.filterMap (·.moof) ++ (if it.kind = .moof then [it.pos] else []) := by
  -- a moof meets a fragment that has none (`last`) or a new one (`fresh`), so exactly its position is added
  by_cases hk : it.kind = .moof <;> cases h <;> simp [Frag.addBox, List.filterMap_cons, *]

theorem PutsIn.size {it : Item} {s s' : Seg} (h : PutsIn it s s') :
    s'.startPos = s.startPos ∧ s'.size = s.size + it.size := by
  cases h <;> simp [Seg.size, Frag.size, Frag.addBox, *] <;> omega

/-- the first box of the segment (`MediaSegment.FirstBox`) sits at the segment's first byte -/
def FirstOK (s : Seg) : Prop := ∃ b, s.firstBox = some b ∧ b.pos = s.startPos

theorem PutsIn.firstBox {it : Item} {s s' : Seg} (h : PutsIn it s s') {b : Item} (hb : s.firstBox = some b) :
    s'.firstBox = some b := by
  unfold Seg.firstBox at hb ⊢
  -- the box goes to the end of the last fragment; if that is also the first one, `hb` says it was not empty
  cases h with
  | @last fr f hfr _ =>
    rw [hfr] at hb
    cases fr with
    | nil => split at hb <;> simp_all [Frag.addBox]
    | cons x fr => exact hb
  | fresh => cases hfr : s.frags <;> simp_all

theorem PutsIn.firstOK {it : Item} {s s' : Seg} (h : PutsIn it s s') (hf : FirstOK s ∨ s = { startPos := it.pos }) :
    FirstOK s' := by
  rcases hf with ⟨b, hb, hp⟩ | rfl
  · exact ⟨b, PutsIn.firstBox h hb, (PutsIn.size h).1 ▸ hp⟩
  · cases h with
    | last hfr _ => simp at hfr
    | fresh => exact ⟨it, rfl, rfl⟩

/-- the kinds of boxes `File.AddChild` puts into segments -/
def segmentBox (k : Kind) : Bool := k == .styp || k == .emsg || k == .moof || k == .mdat

/-- what `File.AddChild` does to the segment list with one box: nothing; or a styp opens a segment; or (emsg, moof,
    mdat) the box is put into the last segment `s`, which is a fresh one opened at the box when
    `startSegmentIfNeeded` said so -/
inductive SegsStep (it : Item) (segs segs' : List Seg) : Prop
  | ignored : segmentBox it.kind = false → segs' = segs → SegsStep it segs segs'
  | styp : it.kind = .styp → segs' = segs ++ [{ startPos := it.pos, hasStyp := true, stypSize := it.size }] →
      SegsStep it segs segs'
  | put {init : List Seg} {s s' : Seg} : (segs = init ++ [s] ∨ (segs = init ∧ s = { startPos := it.pos })) →
      PutsIn it s s' → segs' = init ++ [s'] → SegsStep it segs segs'

/-- what `File.AddChild` does with one box, as far as the theorems about segments go -/
structure Step (it : Item) (st st' : St) : Prop where
  tfra : st'.tfra = st.tfra
  startOnMoof : st'.startOnMoof = st.startOnMoof
  segs : SegsStep it st.segs st'.segs

/-- the common shape of the emsg, moof and mdat cases: `st1` is `st` as `startSegmentIfNeeded` left it, and `g` puts
    the box into its last segment -/
theorem Step.of_put {it : Item} {st st1 : St} {g : Seg → Seg}
    (h1 : st1 = st ∨ st1 = { st with segs := st.segs ++ [{ startPos := it.pos }] }) (hne : st1.segs ≠ [])
    (hg : ∀ s ∈ st1.segs.getLast?, PutsIn it s (g s)) : Step it st (updLastSeg st1 g) := by
  rcases updLast_cases g st1.segs with ⟨h, -⟩ | ⟨init, s, h, e⟩
  · exact absurd h hne
  · have hp := hg s (by simp [h])
    rw [updLastSeg_eq, e]
    rcases h1 with rfl | rfl
    · exact ⟨rfl, rfl, .put (.inl h) hp rfl⟩
    · obtain ⟨e1, e2⟩ := List.append_inj' h rfl
      exact ⟨rfl, rfl, .put (.inr ⟨e1, (List.cons.inj e2).1.symm⟩) hp rfl⟩

theorem addChild_step {sidxOf : Item → Option Sidx} {it : Item} {st st' : St}
    (h : addChild st it sidxOf = some st') : Step it st st' := by
  cases hk : it.kind
  case styp =>
    simp only [addChild, hk, Option.some.injEq] at h; subst h; exact ⟨rfl, rfl, .styp hk rfl⟩
  case emsg =>
    simp only [addChild, hk, updLastSeg_comp, Option.ite_none_left_eq_some, Option.some.injEq,
      ← addBox_other (it := it) (by simp [hk])] at h
    obtain ⟨hne, rfl⟩ := h
    -- a segment without fragments gets its first one at the emsg; otherwise the emsg goes to the last fragment
    refine Step.of_put (startIfNeeded_cases st it.pos) hne fun s _ => ?_
    split
    · rename_i h
      have := PutsIn.fresh (it := it) (s := s)
      rwa [h] at this
    · exact PutsIn.of_put ‹_› fun hm => by simp [hk] at hm
  case moof =>
    obtain ⟨hne, rfl⟩ := addChild_moof hk h
    refine Step.of_put ?_ hne fun s _ => PutsIn.of_ensureMoofFrag it s
    split
    · exact .inl rfl
    · exact startIfNeeded_cases st it.pos
  case mdat =>
    simp only [addChild, hk, ← addBox_other (it := it) (by simp [hk])] at h
    split at h
    · cases h
    rename_i s0 hs0
    rw [Option.ite_none_left_eq_some, Option.some.injEq] at h
    obtain ⟨hfr, rfl⟩ := h
    refine Step.of_put (.inl rfl) (fun h0 => by simp [h0] at hs0) fun s hs => ?_
    rw [hs0] at hs; cases hs
    exact PutsIn.of_put hfr fun hm => by simp [hk] at hm
  all_goals
    -- the other boxes, a sidx among them, leave the segments alone
    simp only [addChild, hk] at h
    repeat' split at h
    all_goals cases h; exact ⟨rfl, rfl, .ignored (by rw [hk]; rfl) rfl⟩

theorem addChild_moofs {sidxOf : Item → Option Sidx} {it : Item} {st st' : St}
    (h : addChild st it sidxOf = some st') :
    moofsOf st' = moofsOf st ++ (if it.kind = .moof then [it.pos] else []) := by
  cases (addChild_step h).segs with
  | ignored hk hs =>
    have : it.kind ≠ .moof := fun hm => by rw [hm] at hk; cases hk
    simp [moofsOf, hs, this]
  | styp hk hs => simp [moofsOf, hs, hk]
  | @put init s s' ho hp hs' =>
    have : moofsOf st = moofsOf { st with segs := init ++ [s] } := by
      rcases ho with hs | ⟨hs, rfl⟩ <;> simp [moofsOf, hs]
    rw [this, moofsOf, moofsOf, hs', List.flatMap_append, List.flatMap_append]
    simp [PutsIn.moofs hp]

theorem addChild_grow {sidxOf : Item → Option Sidx} {it : Item} {st st' : St}
    (h : addChild st it sidxOf = some st') :
    st.segs.length ≤ st'.segs.length ∧ st'.tfra = st.tfra ∧ st'.startOnMoof = st.startOnMoof := by
  have hst := addChild_step h
  refine ⟨?_, hst.tfra, hst.startOnMoof⟩
  cases hst.segs with
  | ignored _ hs => simp [hs]
  | styp _ hs => simp [hs]
  | put ho _ hs' => rcases ho with hs | ⟨hs, -⟩ <;> simp [hs, hs']

theorem groupItems_cons {st st' : St} {sidxOf : Item → Option Sidx} {it : Item} {rest : List Item} :
    groupItems st sidxOf (it :: rest) = some st' ↔
      ∃ st1, addChild st it sidxOf = some st1 ∧ groupItems st1 sidxOf rest = some st' := by
  rw [groupItems]; cases addChild st it sidxOf <;> simp

theorem group_preserves_moofs (sidxOf : Item → Option Sidx) (items : List Item) (st st' : St)
    (h : groupItems st sidxOf items = some st') :
    moofsOf st' = moofsOf st ++ (items.filter (·.kind == .moof)).map (·.pos) := by
  induction items generalizing st with
  | nil => cases h; simp
  | cons it rest ih =>
    obtain ⟨st1, h1, h2⟩ := groupItems_cons.mp h
    rw [ih st1 h2, addChild_moofs h1]
    by_cases hk : it.kind = .moof <;> simp [hk]

theorem group_segments_grow (sidxOf : Item → Option Sidx) (items : List Item) (st st' : St)
    (h : groupItems st sidxOf items = some st') :
    st.segs.length ≤ st'.segs.length ∧ st'.tfra = st.tfra ∧ st'.startOnMoof = st.startOnMoof := by
  induction items generalizing st with
  | nil => cases h; simp
  | cons it rest ih =>
    obtain ⟨st1, h1, h2⟩ := groupItems_cons.mp h
    obtain ⟨a1, a2, a3⟩ := addChild_grow h1
    obtain ⟨b1, b2, b3⟩ := ih st1 h2
    exact ⟨Nat.le_trans a1 b1, b2.trans a2, b3.trans a3⟩

theorem styp_opens_segment (st : St) (it : Item) (sidxOf : Item → Option Sidx) (hk : it.kind = .styp) :
    ∃ st', addChild st it sidxOf = some st' ∧ st'.segs = st.segs ++ [{ startPos := it.pos, hasStyp := true, stypSize := it.size }] := by
  simp [addChild, hk]

theorem default_mode_single_segment (st : St) (it : Item) (sidxOf : Item → Option Sidx) (hk : it.kind = .moof)
    (hs : st.sidxs = []) (ht : st.tfra = none) (hf : st.startOnMoof = false) (hne : st.segs ≠ []) (st' : St)
    (h : addChild st it sidxOf = some st') : st'.segs.length = st.segs.length := by
  rw [addChild_moof_length hk h, startIfNeeded_default st it.pos hs ht hf hne, ite_self]

theorem startOnMoof_opens (st : St) (it : Item) (sidxOf : Item → Option Sidx) (hk : it.kind = .moof)
    (hs : st.sidxs = []) (ht : st.tfra = none) (hf : st.startOnMoof = true)
    (hopen : ∀ s ∈ st.segs.getLast?, ∀ f ∈ s.frags.getLast?, f.moof.isSome) (st' : St)
    (h : addChild st it sidxOf = some st') : st'.segs.length = st.segs.length + 1 := by
  have hop : isOpen st = false := by
    unfold isOpen
    split
    · split
      · simpa using hopen _ ‹_› _ ‹_›
      · rfl
    · rfl
  rw [addChild_moof_length hk h, hop, if_neg Bool.false_ne_true,
    startIfNeeded_of_startOnMoof st it.pos hs ht hf, List.length_append]
  rfl

theorem refStart_succ (sizes : List Nat) (i : Nat) :
    refStart sizes (i + 1) = refStart sizes i + sizes.getD i 0 := by
  unfold refStart
  rw [List.take_add_one, List.sum_append]
  cases h : sizes[i]? <;> simp [List.getD, h]

theorem refStart_length (sizes : List Nat) : refStart sizes sizes.length = sizes.sum := by
  simp [refStart]

theorem sidx_tiles (starts sizes : List Nat) (hl : starts.length = sizes.length)
    (hc : ∀ i, i + 1 < starts.length → starts.getD (i + 1) 0 = starts.getD i 0 + sizes.getD i 0) :
    (∀ i, i < starts.length → starts.getD 0 0 + refStart sizes i = starts.getD i 0) ∧
    (starts ≠ [] → starts.getD 0 0 + sizes.sum = starts.getD (starts.length - 1) 0 + sizes.getD (sizes.length - 1) 0) := by
  have h1 : ∀ i, i < starts.length → starts.getD 0 0 + refStart sizes i = starts.getD i 0 := by
    intro i
    induction i with
    | zero => intro _; simp [refStart]
    | succ i ih =>
      intro hi
      rw [refStart_succ, hc i hi, ← ih (by omega)]; omega
  refine ⟨h1, fun hne => ?_⟩
  have hpos : 0 < sizes.length := hl ▸ List.length_pos_iff.mpr hne
  have h := h1 (sizes.length - 1) (by omega)
  have e := refStart_succ sizes (sizes.length - 1)
  rw [Nat.sub_add_cancel hpos, refStart_length] at e
  rw [hl]; omega

/-- the segment starts one top-level sidx lists: running sums of the referenced sizes from its anchor point, one per
    reference, up to (not including) its first reference_type 1 entry -/
def leafStarts : List (Nat × Nat) → Nat → List Nat
  | [], _ => []
  | (ty, sz) :: rest, start => if ty = 1 then [] else start :: leafStarts rest (start + sz)

/-- the segment starts listed by ALL top-level sidx boxes, in box order -/
def allStarts (sidxs : List Sidx) : List Nat := sidxs.flatMap fun sx => leafStarts sx.refs sx.anchor

/-- `(pos, k)` among the starts the box lists, numbered from the running counter `idx`: membership in `zipIdx` mirrors
    the loop step for step, and the index arithmetic appears only once, in `sidxStart_spec` -/
theorem sidxStart_refsLoop_spec (pos k : Nat) (refs : List (Nat × Nat)) (start idx : Nat) :
    sidxStart.refsLoop pos k refs start idx =
      if (pos, k) ∈ (leafStarts refs start).zipIdx idx then (some true, k)
      else (none, idx + (leafStarts refs start).length) := by
  induction refs generalizing start idx with
  | nil => simp [sidxStart.refsLoop, leafStarts]
  | cons r rest ih =>
    obtain ⟨ty, sz⟩ := r
    unfold sidxStart.refsLoop leafStarts
    by_cases hty : ty = 1
    · simp [hty]
    · by_cases hf : pos = start ∧ idx = k
      · simp [hty, hf, List.zipIdx_cons]
      · simp [hty, hf, ih, List.zipIdx_cons, eq_comm (a := k), Nat.add_assoc, Nat.add_comm 1]

theorem sidxStart_go_spec (pos k : Nat) (sidxs : List Sidx) (idx : Nat) :
    sidxStart.go pos k sidxs idx = decide ((pos, k) ∈ (allStarts sidxs).zipIdx idx) := by
  induction sidxs generalizing idx with
  | nil => simp [sidxStart.go, allStarts]
  | cons sx rest ih =>
    have hall : allStarts (sx :: rest) = leafStarts sx.refs sx.anchor ++ allStarts rest := by
      simp [allStarts]
    by_cases hm : (pos, k) ∈ (leafStarts sx.refs sx.anchor).zipIdx idx <;>
      simp [sidxStart.go, sidxStart_refsLoop_spec, hall, List.zipIdx_append, hm, ih]

theorem sidxStart_spec (sidxs : List Sidx) (pos k : Nat) :
    sidxStart sidxs pos k = true ↔ (allStarts sidxs)[k]? = some pos := by
  simp [sidxStart, sidxStart_go_spec, List.mem_zipIdx_iff_getElem?]

theorem startIfNeeded_sidx (st : St) (pos : Nat) (hs : st.sidxs ≠ []) (hne : st.segs ≠ []) :
    (startIfNeeded st pos).segs =
      if (allStarts st.sidxs)[st.segs.length]? = some pos then st.segs ++ [{ startPos := pos }] else st.segs := by
  simp [startIfNeeded, hs, hne, sidxStart_spec, apply_ite St.segs]

theorem sidx_moof_step (st : St) (it : Item) (sidxOf : Item → Option Sidx) (hk : it.kind = .moof)
    (hs : st.sidxs ≠ []) (hne : st.segs ≠ []) (hop : isOpen st = false) (st' : St)
    (h : addChild st it sidxOf = some st') :
    st'.segs.length =
      st.segs.length + (if (allStarts st.sidxs)[st.segs.length]? = some it.pos then 1 else 0) := by
  rw [addChild_moof_length hk h, hop, if_neg Bool.false_ne_true, startIfNeeded_sidx st it.pos hs hne]
  split <;> simp

/-- invariant of `File.AddChild` over a run of segment boxes that starts at byte `a` and has reached byte `b`: the
    segments lie one behind the other from `a` to `b`, each as long as `MediaSegment.Size()` says and with its first
    box at its first byte -/
def Tiles : List Seg → Nat → Nat → Prop
  | [], a, b => a = b
  | s :: rest, a, b => s.startPos = a ∧ FirstOK s ∧ Tiles rest (a + s.size) b

/-- the boxes follow each other without gaps from byte `p` -/
def Contig : List Item → Nat → Prop
  | [], _ => True
  | it :: rest, p => it.pos = p ∧ Contig rest (p + it.size)

theorem Tiles.concat {init : List Seg} {s : Seg} {a b : Nat} :
    Tiles (init ++ [s]) a b ↔ ∃ m, Tiles init a m ∧ s.startPos = m ∧ FirstOK s ∧ m + s.size = b := by
  induction init generalizing a with
  | nil => simp [Tiles]
  | cons x rest ih => simp [Tiles, ih, and_assoc]

theorem addChild_tiles {sidxOf : Item → Option Sidx} {it : Item} {st st' : St} {a : Nat}
    (hk : segmentBox it.kind = true) (ht : Tiles st.segs a it.pos) (h : addChild st it sidxOf = some st') :
    Tiles st'.segs a (it.pos + it.size) := by
  cases (addChild_step h).segs with
  | ignored hk' _ => rw [hk'] at hk; cases hk
  | styp _ hs => rw [hs]; exact Tiles.concat.mpr ⟨it.pos, ht, rfl, ⟨_, rfl, rfl⟩, by simp [Seg.size]⟩
  | put ho hp hs' =>
    obtain ⟨p1, p2⟩ := PutsIn.size hp
    rw [hs']
    rcases ho with hs | ⟨rfl, rfl⟩
    · obtain ⟨m, t1, t2, t3, t4⟩ := Tiles.concat.mp (hs ▸ ht)
      exact Tiles.concat.mpr ⟨m, t1, p1.trans t2, PutsIn.firstOK hp (.inl t3), by omega⟩
    · exact Tiles.concat.mpr ⟨it.pos, ht, p1, PutsIn.firstOK hp (.inr rfl), by rw [p2]; simp [Seg.size]⟩

theorem group_tiles {sidxOf : Item → Option Sidx} {items : List Item} {st st' : St} {a p : Nat}
    (hc : Contig items p) (hm : ∀ it ∈ items, segmentBox it.kind = true) (ht : Tiles st.segs a p)
    (h : groupItems st sidxOf items = some st') : Tiles st'.segs a (p + (items.map (·.size)).sum) := by
  induction items generalizing st p with
  | nil => cases h; simpa using ht
  | cons it rest ih =>
    obtain ⟨st1, h1, h2⟩ := groupItems_cons.mp h
    obtain ⟨rfl, hc'⟩ := hc
    obtain ⟨hk, hm'⟩ := List.forall_mem_cons.mp hm
    simpa [Nat.add_assoc] using ih hc' hm' (addChild_tiles hk ht h1) h2

theorem Tiles.refs {segs : List Seg} {a b : Nat} (ht : Tiles segs a b) :
    (∀ i (hi : i < segs.length), a + refStart (segs.map Seg.size) i = (segs[i]).startPos) ∧
    a + (segs.map Seg.size).sum = b := by
  induction segs generalizing a with
  | nil => simpa [Tiles] using ht
  | cons s rest ih =>
    obtain ⟨h1, -, h2⟩ := ht
    obtain ⟨r1, r2⟩ := ih h2
    refine ⟨fun i hi => ?_, by simp only [List.map_cons, List.sum_cons]; omega⟩
    cases i with
    | zero => simp [refStart, h1]
    | succ j => simpa [refStart, Nat.add_assoc] using r1 j (by simpa using hi)

theorem insertIdx_at_start {all : List Item} {st : St} {a b i : Nat} (ht : Tiles st.segs a b)
    (h : insertIdx all st = some i) : ∃ x, all[i]? = some x ∧ x.pos = a := by
  match hs : st.segs, ht with
  | [], _ => simp [insertIdx, hs] at h
  | s :: _, ⟨hst, ⟨bx, hb, hpos⟩, _⟩ =>
    simp only [insertIdx, hs, hb] at h
    split at h
    · cases h
      obtain ⟨hlt, hp, -⟩ := List.findIdx?_eq_some_iff_getElem.mp ‹_›
      exact ⟨_, List.getElem?_eq_getElem hlt, by rw [eq_of_beq hp, hpos, hst]⟩
    · cases h

theorem updateSidx_index {all : List Item} {st : St} {add : Bool} {others : List Nat} {o : IndexOut}
    (h : updateSidx all st add others = .index o) :
    o.sizes = st.segs.map Seg.size ∧
    (st.sidxs = [] → o.firstOffset = 0 ∧ ∃ j, o.insertAt = some j ∧ insertIdx all st = some j) := by
  unfold updateSidx at h
  repeat' split at h
  all_goals cases h
  · exact ⟨rfl, fun h0 => absurd h0 ‹_›⟩
  · exact ⟨rfl, fun _ => ⟨rfl, _, rfl, ‹_›⟩⟩

end Mp4ff.Segments
