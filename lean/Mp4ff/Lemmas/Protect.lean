import Mp4ff.Model.Protect
/-!
The three boxes that `EncryptFragment` appends to a traf (`Mp4ff.Model.Protect`).  A saio with one offset has 20 bytes, a
senc at least 16.  The loop that feeds one sample after the other into saiz and senc (`buildAux`) has a closed form when
all samples have sub-samples (`buildAux_pos`) and when none has (`buildAux_zero`); `subsOk` admits nothing else.
`auxBoxes_spec` is what the other modules use: counts, sizes, and the saiz entry (`Saiz.entry`) of every sample.
`sencLoop` is the size loop of Go's `SencBox.calcSize`, and `sencLoop_eq` relates it to the model's `Senc.calcSize`.
-/
namespace Mp4ff.Protect

theorem saio_one_size (o : Int) : Saio.size { offsets := [o] } = 20 := by
  simp [Saio.size]

theorem Senc.calcSize_ge (s : Senc) : 16 ≤ s.calcSize := by
  unfold Senc.calcSize; omega

/-- the Go loop of `SencBox.calcSize`: `n` samples left, `subs` = remaining `SubSamples` entries; `none` = index out of range -/
def sencLoop (ivSize : Nat) (flag : Bool) : Nat → List Nat → Option Nat
  | 0, _ => some 0
  | n + 1, subs =>
    if flag then
      match subs with
      | [] => none
      | k :: rest => (sencLoop ivSize flag n rest).map (· + (ivSize + (2 + 6 * k)))
    else (sencLoop ivSize flag n subs).map (· + ivSize)

theorem sencLoop_closed (iv : Nat) (flag : Bool) (n : Nat) (l : List Nat) (h : flag = true → l.length = n) :
    sencLoop iv flag n l = some (n * iv + if flag then (l.map fun k => 2 + 6 * k).sum else 0) := by
  -- every step adds `iv`, which `Nat.succ_mul` gathers; with `flag`, the list has an entry left for the step
  -- (`h`: the `none` branch does not arise) and the hypothesis of the recursive call is `h` less one
  fun_induction sencLoop iv flag n l <;> simp_all [Nat.succ_mul] <;> omega

theorem sencLoop_eq (s : Senc) (h : s.subFlag = true → s.subs.length = s.sampleCount) :
    (sencLoop s.ivSize s.subFlag s.sampleCount s.subs).map (16 + ·) = some s.calcSize := by
  rw [sencLoop_closed _ _ _ _ h, Senc.calcSize, Option.map_some, Nat.mul_comm, Nat.add_assoc]

theorem sampleInfoSize_zero (iv : Nat) : sampleInfoSize iv 0 = iv := by simp [sampleInfoSize]
theorem sampleInfoSize_pos (iv n : Nat) (h : n > 0) : sampleInfoSize iv n = iv + 2 + 6 * n := by
  simp [sampleInfoSize, h]; omega

/-- in the loop of `EncryptFragment` every sample comes with the same IV length, so `SencBox.AddSample` never meets its
    "mix of IV lengths" error and has a closed form -/
theorem Senc.addSample_eq {s : Senc} {iv : Nat} (h : iv ≠ 0 → s.sampleCount ≠ 0 → s.ivSize = iv) (n : Nat) :
    s.addSample iv n =
      { s with ivSize := if iv ≠ 0 ∧ s.sampleCount = 0 then iv else s.ivSize
               subs := if n > 0 then s.subs ++ [n] else s.subs
               subFlag := s.subFlag || decide (n > 0)
               sampleCount := s.sampleCount + 1 } := by
  have hmix : ¬(iv ≠ 0 ∧ s.sampleCount ≠ 0 ∧ iv ≠ s.ivSize) := fun ⟨a, b, c⟩ => c (h a b).symm
  rw [Senc.addSample, if_neg hmix]
  by_cases h1 : iv ≠ 0 ∧ s.sampleCount = 0 <;> by_cases hn : n > 0 <;> simp [h1, hn]

theorem Senc.addSample_ivSize {s : Senc} {iv : Nat} (h : iv ≠ 0 → s.sampleCount ≠ 0 → s.ivSize = iv) (n : Nat)
    (hiv : iv ≠ 0) : (s.addSample iv n).ivSize = iv := by
  rw [Senc.addSample_eq h]
  by_cases hc : s.sampleCount = 0
  · simp [hiv, hc]
  · simp [hc, h hiv hc]

theorem Saiz.addSampleInfo_pos (a : Saiz) {iv n : Nat} (hn : n > 0) (h : sampleInfoSize iv n ≤ 255) :
    a.addSampleInfo iv n = some { a with info := a.info ++ [sampleInfoSize iv n], sampleCount := a.sampleCount + 1 } := by
  have hpos : sampleInfoSize iv n > 0 := by rw [sampleInfoSize_pos iv n hn]; omega
  simp [Saiz.addSampleInfo, hn, hpos, Nat.mod_eq_of_lt (Nat.lt_succ_of_le h)]

theorem Saiz.addSampleInfo_zero (a : Saiz) {iv : Nat} (hiv : iv ≤ 255) (ha : a.defaultSize = 0 ∨ a.defaultSize = iv) :
    a.addSampleInfo iv 0 =
      some (if iv = 0 then a else { a with defaultSize := iv, sampleCount := a.sampleCount + 1 }) := by
  by_cases h0 : iv = 0
  · simp [Saiz.addSampleInfo, sampleInfoSize_zero, h0]
  · rcases ha with ha | ha <;>
      simp [Saiz.addSampleInfo, sampleInfoSize_zero, Nat.pos_of_ne_zero h0, ha, h0,
        Nat.mod_eq_of_lt (Nat.lt_succ_of_le hiv)]

theorem buildAux_pos (iv : Nat) (subs : List Nat) (a : Saiz) (s : Senc)
    (h : ∀ n ∈ subs, n > 0 ∧ sampleInfoSize iv n ≤ 255) (hinv : iv ≠ 0 → s.sampleCount ≠ 0 → s.ivSize = iv) :
    buildAux iv subs a s = some
      ({ a with info := a.info ++ subs.map (sampleInfoSize iv), sampleCount := a.sampleCount + subs.length },
       { s with ivSize := if iv ≠ 0 ∧ s.sampleCount = 0 ∧ subs ≠ [] then iv else s.ivSize,
                subs := s.subs ++ subs, subFlag := s.subFlag || !subs.isEmpty,
                sampleCount := s.sampleCount + subs.length }) := by
  induction subs generalizing a s with
  | nil => simp [buildAux]
  | cons n rest ih =>
    have hn := h n (by simp)
    simp only [buildAux, Saiz.addSampleInfo_pos a hn.1 hn.2]
    rw [ih _ _ (fun m hm => h m (by simp [hm])) fun hiv _ => Senc.addSample_ivSize hinv n hiv, Senc.addSample_eq hinv]
    simp [hn.1, Nat.add_assoc, Nat.add_comm 1]

theorem buildAux_zero (iv : Nat) (hiv255 : iv ≤ 255) (subs : List Nat) (a : Saiz) (s : Senc)
    (h : ∀ n ∈ subs, n = 0) (ha : a.defaultSize = 0 ∨ a.defaultSize = iv)
    (hinv : iv ≠ 0 → s.sampleCount ≠ 0 → s.ivSize = iv) :
    buildAux iv subs a s = some
      ({ a with defaultSize := if iv ≠ 0 ∧ subs ≠ [] then iv else a.defaultSize,
                sampleCount := a.sampleCount + (if iv ≠ 0 then subs.length else 0) },
       { s with ivSize := if iv ≠ 0 ∧ s.sampleCount = 0 ∧ subs ≠ [] then iv else s.ivSize,
                sampleCount := s.sampleCount + subs.length }) := by
  induction subs generalizing a s with
  | nil => simp [buildAux]
  | cons n rest ih =>
    obtain rfl : n = 0 := h n (by simp)
    simp only [buildAux, Saiz.addSampleInfo_zero a hiv255 ha]
    rw [ih _ _ (fun m hm => h m (by simp [hm])) (by split; exact ha; exact .inr rfl)
      fun hiv _ => Senc.addSample_ivSize hinv 0 hiv, Senc.addSample_eq hinv]
    by_cases hiv : iv = 0 <;> simp [hiv, Nat.add_assoc, Nat.add_comm 1]

/-- how a reader finds the auxiliary information size of sample `i` in a saiz box -/
def Saiz.entry (a : Saiz) (i : Nat) : Nat := if a.defaultSize ≠ 0 then a.defaultSize else a.info.getD i 0

theorem subsOk_cases {iv : Nat} {subs : List Nat} (h : subsOk iv subs = true) :
    (∀ n ∈ subs, sampleInfoSize iv n ≤ 255) ∧ ((∀ n ∈ subs, n > 0) ∨ (∀ n ∈ subs, n = 0)) := by
  simpa [subsOk] using h

theorem sum_sampleInfoSize_pos (iv : Nat) (subs : List Nat) (hpos : ∀ n ∈ subs, n > 0) :
    (subs.map (sampleInfoSize iv)).sum = subs.length * iv + (subs.map fun n => 2 + 6 * n).sum := by
  induction subs with
  | nil => simp
  | cons n rest ih => simp_all [sampleInfoSize_pos, Nat.succ_mul]; omega

theorem sum_sampleInfoSize_zero (iv : Nat) (subs : List Nat) (hzero : ∀ n ∈ subs, n = 0) :
    (subs.map (sampleInfoSize iv)).sum = subs.length * iv := by
  induction subs with
  | nil => simp
  | cons n rest ih =>
    rw [List.map_cons, List.sum_cons, ih fun m hm => hzero m (List.mem_cons_of_mem _ hm), hzero n List.mem_cons_self,
      sampleInfoSize_zero, List.length_cons, Nat.succ_mul, Nat.add_comm]

/-- the saiz box `a` and the senc box `s` that `auxBoxes` builds for the sub-sample counts `subs` under scheme `sc` -/
structure AuxOK (sc : Scheme) (subs : List Nat) (a : Saiz) (s : Senc) : Prop where
  sencCount : s.sampleCount = subs.length
  sencSize : s.size = 16 + (subs.map (sampleInfoSize sc.ivLen)).sum
  sencReadSize : s.readSize = 0
  entry : ∀ i, (hi : i < subs.length) → a.entry i = sampleInfoSize sc.ivLen subs[i]
  entryLe : ∀ n ∈ subs, sampleInfoSize sc.ivLen n ≤ 255
  saizCount : a.sampleCount = (if sc.ivLen = 0 ∧ (∀ n ∈ subs, n = 0) then 0 else subs.length)

theorem auxBoxes_spec {sc : Scheme} {subs : List Nat} {a : Saiz} {s : Senc} (h : auxBoxes sc subs = some (a, s)) :
    AuxOK sc subs a s := by
  unfold auxBoxes at h
  split at h
  · next hok =>
    obtain ⟨h255, hcase⟩ := subsOk_cases hok
    by_cases hnil : subs = []
    · subst hnil
      simp [buildAux] at h
      obtain ⟨rfl, rfl⟩ := h
      -- no sample: both boxes are as they were created, and every field is computed
      constructor <;> simp [Senc.size, Senc.calcSize]
    -- the boxes start empty, so the IV size the loop stores (if it is not 0) is just the IV size
    have hiv : (if sc.ivLen ≠ 0 then sc.ivLen else 0) = sc.ivLen := by split <;> omega
    rcases hcase with hpos | hzero
    · rw [buildAux_pos sc.ivLen subs {} {} (fun n hn => ⟨hpos n hn, h255 n hn⟩) (by simp)] at h
      simp only [Option.some.injEq, Prod.mk.injEq] at h
      obtain ⟨rfl, rfl⟩ := h
      have hnz : ¬ ∀ n ∈ subs, n = 0 := by
        obtain ⟨x, hx⟩ := List.exists_mem_of_ne_nil subs hnil
        exact fun hz => absurd (hz x hx) (Nat.ne_of_gt (hpos x hx))
      exact {
        sencCount := by simp
        sencSize := by
          rw [sum_sampleInfoSize_pos _ _ hpos]
          simp [Senc.size, Senc.calcSize, hnil, hiv]; omega
        sencReadSize := rfl
        entry := fun i hi => by simp [Saiz.entry, hi]
        entryLe := h255
        saizCount := by simp [hnz] }
    · have hiv255 : sc.ivLen ≤ 255 := by cases sc <;> simp [Scheme.ivLen]
      rw [buildAux_zero sc.ivLen hiv255 subs {} {} hzero (by simp) (by simp)] at h
      simp only [Option.some.injEq, Prod.mk.injEq] at h
      obtain ⟨rfl, rfl⟩ := h
      exact {
        sencCount := by simp
        sencSize := by
          rw [sum_sampleInfoSize_zero _ _ hzero]
          simp [Senc.size, Senc.calcSize, hnil, hiv]
        sencReadSize := rfl
        entry := fun i hi => by
          rw [hzero _ (List.getElem_mem hi), sampleInfoSize_zero]
          simp [Saiz.entry, hnil, hiv]
        entryLe := h255
        saizCount := by by_cases h0 : sc.ivLen = 0 <;> simp [h0, eq_true hzero] }
  · simp at h

end Mp4ff.Protect
