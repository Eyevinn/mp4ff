import Mp4ff.Lemmas.EsdsBase
/-!
decode ∘ encode = id on well-formed esds trees (`Esds.WF`): `decodeDescriptor_enc` for descriptors (any fuel and
budget ≥ the size, any bytes behind), `decodeES_enc` for the ES descriptor; the box payload is
`C01c.esds_decode_encode_tail`.  Every decoder is run on the bytes its encoder wrote, level by level; the reader ends
right behind them.
-/
namespace Mp4ff.Esds

/-- two results that differ in how the final position is written -/
theorem res_ok_pos_congr {α : Type} {a : α} {t : Bytes} {p q : Nat} (h : p = q) :
    ((.ok a, ⟨t, p, none⟩) : Res α) = (.ok a, ⟨t, q, none⟩) := by rw [h]

theorem decodeDSI_enc (f : Nat) (data t : Bytes) (p : Nat) (mx : Int) (h : SzOK f data.length)
    (hmx : ((1 + f + 1 + data.length : Nat) : Int) ≤ mx) (hmx2 : mx < 2 ^ 62) :
    decodeDSI ⟨writeSize data.length f ++ (data ++ t), p, none⟩ mx
      = (.ok (.dsi f data), ⟨t, p + (f + 1) + data.length, none⟩) := by
  simp only [decodeDSI, readSizeSize_write (mx - 1) _ f _ p h (by omega), exceeds_false f _ mx hmx hmx2]
  simp [toI64_small (show data.length < 2 ^ 63 by omega), readBytes_append]

theorem decodeRaw_enc (tag f : Nat) (data t : Bytes) (p : Nat) (mx : Int) (h : SzOK f data.length)
    (hmx : ((1 + f + 1 + data.length : Nat) : Int) ≤ mx) (hmx2 : mx < 2 ^ 62) :
    decodeRaw tag ⟨writeSize data.length f ++ (data ++ t), p, none⟩ mx
      = (.ok (.raw tag f data), ⟨t, p + (f + 1) + data.length, none⟩) := by
  simp only [decodeRaw, readSizeSize_write (mx - 1) _ f _ p h (by omega), exceeds_false f _ mx hmx hmx2]
  simp [toI64_small (show data.length < 2 ^ 63 by omega), readBytes_append]

theorem decodeSL_enc (f cfg : Nat) (more t : Bytes) (p : Nat) (mx : Int) (h : SzOK f (1 + more.length))
    (hc : cfg < 256) (hmx : ((1 + f + 1 + (1 + more.length) : Nat) : Int) ≤ mx) (hmx2 : mx < 2 ^ 62) :
    decodeSL ⟨writeSize (1 + more.length) f ++ (beBytes 1 cfg ++ (more ++ t)), p, none⟩ mx
      = (.ok (.sl f cfg more), ⟨t, p + (f + 1) + 1 + more.length, none⟩) := by
  have hb : (f : Int) < mx - 1 ∧ more.length < 2 ^ 63 := by omega
  have hI : toI64 (1 + more.length - 1) = (more.length : Int) := by
    rw [Nat.add_sub_cancel_left]; exact toI64_small hb.2
  simp only [decodeSL, readSizeSize_write (mx - 1) _ f _ p h hb.1, exceeds_false f _ mx hmx hmx2,
    Option.isSome_none, Bool.false_eq_true, ↓reduceIte, readBE_append 1 cfg _ _ hc, hI]
  rw [if_neg (Nat.ne_of_gt (Nat.add_pos_left Nat.one_pos _))]
  cases more with
  | nil => simp
  | cons b bs =>
    have : 1 + (b :: bs).length > 1 := by simp
    simp only [this, ↓reduceIte, readBytes_append]
    simp

theorem sizeSizes_ge : ∀ l : List Desc, 2 * l.length ≤ sizeSizes l
  | [] => Nat.le_refl _
  | d :: ds => by have := sizeSizes_ge ds; rw [sizeSizes, List.length_cons]; omega

theorem sizeSize_ge (d : Desc) : 2 ≤ d.sizeSize := by unfold Desc.sizeSize; omega

theorem UnkOK.decodeDescriptor_error (n : Nat) (u t : Bytes) (p : Nat) (h : UnkOK u) :
    ∃ e s', decodeDescriptor (n + 1) ⟨u ++ t, p, none⟩ (u.length : Int) = (.error e, s')
      ∧ e.isFuel = false ∧ s'.err = none := by
  rcases h with h | h | h
  · subst h
    exact ⟨.tooSmall, ⟨[] ++ t, p, none⟩, by simp [decodeDescriptor], rfl, rfl⟩
  · refine ⟨.tooSmall, ⟨u ++ t, p, none⟩, ?_, rfl, rfl⟩
    simp [decodeDescriptor, h]
  · cases u with
    | nil => simp at h
    | cons b r =>
      simp at h; subst h
      cases r with
      | nil => exact ⟨.tooSmall, ⟨[3] ++ t, p, none⟩, by simp [decodeDescriptor], rfl, rfl⟩
      | cons c r =>
        refine ⟨.useES, ⟨c :: r ++ t, p + 1, none⟩, ?_, rfl, rfl⟩
        have : ¬ (((3 :: c :: r).length : Int) < 2) := by simp; omega
        simp only [decodeDescriptor, this, ↓reduceIte, List.cons_append, readBE1_cons]
        simp

/-- decode ∘ encode for descriptors with fuel `n`: the statement of `decodeDescriptor_enc`, and the induction hypothesis
    under which the loops and `decodeDC` are run -/
def DecIH (n : Nat) : Prop :=
  ∀ (d : Desc) (t : Bytes) (p : Nat) (mx : Int), d.WF → d.sizeSize ≤ n → (d.sizeSize : Int) ≤ mx → mx < 2 ^ 62 →
    decodeDescriptor n ⟨encodeDesc d ++ t, p, none⟩ mx = (.ok d, ⟨t, p + d.sizeSize, none⟩)

/-! Inside a descriptor of declared size `size` whose payload began at position `ds`, `c` bytes of which are read,
    with `R` bytes to go: what the decoders compute as `left`; and the next descriptor `d` decoded with that budget,
    after which `c + d.sizeSize` bytes are read and the `R` behind `d` are to go. -/

theorem wrapI64_size_sub_read {size c R : Nat} (h : c + R = size) (hsz : size < 2 ^ 62) (ds : Nat) :
    wrapI64 (toI64 size - ((ds + c - ds : Nat) : Int)) = (R : Int) := by
  rw [Nat.add_sub_cancel_left, toI64_small (by omega), wrapI64_of_range] <;> omega

theorem DecIH.decode_next {n size c R : Nat} (IH : DecIH n) {d : Desc} (h : c + (d.sizeSize + R) = size)
    (hn : size ≤ n) (hsz : size < 2 ^ 62) (hw : d.WF) :
    c + d.sizeSize + R = size ∧ ∀ (t : Bytes) (ds : Nat),
      decodeDescriptor n ⟨encodeDesc d ++ t, ds + c, none⟩ ((d.sizeSize + R : Nat) : Int)
        = (.ok d, ⟨t, ds + (c + d.sizeSize), none⟩) := by
  have hb : d.sizeSize ≤ n ∧ ((d.sizeSize + R : Nat) : Int) < 2 ^ 62 := by omega
  exact ⟨(Nat.add_assoc ..).trans h, fun t ds => by
    rw [IH d t _ _ hw hb.1 (Int.ofNat_le.2 (Nat.le_add_right _ _)) hb.2, Nat.add_assoc]⟩

/-- The loop on what is left of such a descriptor: well-formed descriptors `rem` followed by `unk` on which the probe
    fails.  It hands all of them to its exit, `unk` only when there is any. -/
theorem optLoop_enc {α : Type} {n size : Nat} (IH : DecIH n) (hn : size ≤ n) (hsz : size < 2 ^ 62) (ds : Nat)
    (tooFar : Err) (exit : List Desc → Option Bytes → Rd → Res α) {unk : Bytes} (hunk : UnkOK unk) (t : Bytes) :
    ∀ (rem : List Desc) (m c : Nat) (acc : List Desc), WFs rem → rem.length < m →
      c + (sizeSizes rem + unk.length) = size →
      optLoop (decodeDescriptor n) (toI64 size) ds tooFar exit m ⟨encodeDescs rem ++ (unk ++ t), ds + c, none⟩ acc
        = exit (acc ++ rem) (if unk = [] then none else some unk) ⟨t, ds + size, none⟩ := by
  intro rem
  induction rem with
  | nil =>
    intro m c acc _ hm hsize
    obtain ⟨m, rfl⟩ := Nat.exists_eq_add_one.2 (Nat.zero_lt_of_lt hm)
    rw [sizeSizes, Nat.zero_add] at hsize
    simp only [optLoop, wrapI64_size_sub_read hsize hsz, encodeDescs, List.nil_append, List.append_nil]
    cases unk with
    | nil => subst hsize; simp
    | cons b r =>
      subst hsize
      have hlen : 0 < (b :: r).length := Nat.succ_pos _
      obtain ⟨n, rfl⟩ := Nat.exists_eq_add_one.2 (Nat.lt_of_lt_of_le (Nat.lt_add_left c hlen) hn)
      obtain ⟨e, s', he, hf, hs'⟩ := UnkOK.decodeDescriptor_error n (b :: r) t (ds + c) hunk
      rw [if_neg (Int.natCast_ne_zero_iff_pos.2 hlen), if_neg (Int.not_lt.2 (Int.natCast_nonneg _)), he]
      simp only [hf, Bool.false_eq_true, ↓reduceIte, setPos, hs', readBytes_append, reduceCtorEq, Nat.add_assoc]
  | cons d ds' ih =>
    intro m c acc hwf hm hsize
    obtain ⟨m, rfl⟩ := Nat.exists_eq_add_one.2 (Nat.zero_lt_of_lt hm)
    rw [WFs] at hwf
    rw [sizeSizes_cons, Nat.add_assoc] at hsize
    obtain ⟨hrest, hd⟩ := IH.decode_next hsize hn hsz hwf.1
    have h2 : 0 < d.sizeSize := Nat.lt_of_lt_of_le (by decide) (sizeSize_ge d)
    simp only [optLoop, wrapI64_size_sub_read hsize hsz, encodeDescs, List.append_assoc]
    rw [if_neg (Int.natCast_ne_zero_iff_pos.2 (Nat.add_pos_left h2 _)), if_neg (Int.not_lt.2 (Int.natCast_nonneg _)), hd]
    dsimp only
    rw [ih m _ (acc ++ [d]) hwf.2 (Nat.lt_of_succ_lt_succ hm) hrest, List.append_assoc, List.singleton_append]

theorem dcLoop_enc {n size : Nat} (IH : DecIH n) (hn : size ≤ n) (hsz : size < 2 ^ 62) (h0 : 0 < size) (ds : Nat) {h : DcHdr}
    (hu : h.unk = []) {unk : Bytes} (hunk : UnkOK unk) (t : Bytes) {rem : List Desc} (c : Nat) (acc : List Desc)
    (hwf : WFs rem) (hsize : c + (sizeSizes rem + unk.length) = size) :
    dcLoop (decodeDescriptor n) (toI64 size) ds h n ⟨encodeDescs rem ++ (unk ++ t), ds + c, none⟩ acc
      = (.ok (.dc { h with unk := unk } (acc ++ rem)), ⟨t, ds + size, none⟩) := by
  have := sizeSizes_ge rem
  rw [dcLoop_eq, optLoop_enc IH hn hsz ds _ _ hunk t rem n c acc hwf (by omega) hsize]
  cases h; cases hu
  cases unk <;> rfl

theorem decodeDC_enc (n : Nat) (IH : DecIH n) (h : DcHdr) (others : List Desc) (t : Bytes) (p : Nat) (mx : Int)
    (hwf : (Desc.dc h others).WF) (hfuel : (Desc.dc h others).size ≤ n)
    (hmx : ((1 + h.sfs + 1 + (Desc.dc h others).size : Nat) : Int) ≤ mx) (hmx2 : mx < 2 ^ 62) :
    decodeDC (decodeDescriptor n) n
      ⟨writeSize (Desc.dc h others).size h.sfs ++ (beBytes 1 h.objType
        ++ (beBytes 4 ((h.streamType % 256) <<< 24 ||| h.bufSize) ++ (beBytes 4 h.maxBr ++ (beBytes 4 h.avgBr
        ++ (encodeDsi h.dsi ++ (encodeDescs others ++ (h.unk ++ t))))))), p, none⟩ mx
      = (.ok (.dc h others), ⟨t, p + (h.sfs + 1) + (Desc.dc h others).size, none⟩) := by
  have hL : (h.sfs : Int) < mx - 1 := by omega
  have hsz : (Desc.dc h others).size < 2 ^ 62 := by omega
  obtain ⟨sfs, ot, st, buf, mb, ab, dsi, unk⟩ := h
  rw [Desc.WF] at hwf
  obtain ⟨wsz, wot, wst, wbuf, wmb, wab, wdsi, woth, wslot, wunk, wlast⟩ := hwf
  have hS : 13 + (dsiSizeSize dsi + (sizeSizes others + unk.length))
      = (Desc.dc ⟨sfs, ot, st, buf, mb, ab, dsi, unk⟩ others).size := by rw [Desc.size]; simp only [Nat.add_assoc]
  generalize (Desc.dc ⟨sfs, ot, st, buf, mb, ab, dsi, unk⟩ others).size = S at hS hfuel hmx hsz wsz ⊢
  dsimp only at wsz wot wst wbuf wmb wab wdsi wslot wunk wlast hmx hL ⊢
  simp only [decodeDC, readSizeSize_write (mx - 1) S sfs _ p wsz hL, exceeds_false sfs S mx hmx hmx2,
    Option.isSome_none, Bool.false_eq_true, ↓reduceIte]
  generalize p + (sfs + 1) = q
  obtain ⟨hw, hst, hbuf⟩ := mul_pow24_add_div_mod wst wbuf
  rw [← Nat.shiftLeft_add_eq_or_of_lt wbuf, Nat.shiftLeft_eq, Nat.mod_eq_of_lt wst]
  simp only [readBE_append 1 ot _ _ wot, readBE_append 4 _ _ _ hw, readBE_append 4 mb _ _ wmb,
    readBE_append 4 ab _ _ wab, Nat.add_assoc, Nat.reduceAdd, wrapI64_size_sub_read hS hsz, hst, hbuf]
  clear hw hst hbuf wot wst wbuf wmb wab hmx hmx2  -- keeps the `omega` calls below cheap
  have h0 : 0 < S := by omega
  rw [if_neg (by omega)]
  -- behind the 13 fixed bytes: the DecSpecificInfo, nothing at all, or the first other descriptor; then the loop
  cases dsi with
  | some fx =>
    obtain ⟨f, x⟩ := fx
    rw [show dsiSizeSize (some (f, x)) = (Desc.dsi f x).sizeSize from rfl] at hS ⊢
    have h2 := sizeSize_ge (.dsi f x)
    obtain ⟨hrest, hd⟩ := IH.decode_next hS hfuel hsz (d := .dsi f x) (by rw [Desc.WF]; exact wdsi)
    rw [show encodeDsi (some (f, x)) = encodeDesc (.dsi f x) from rfl, if_neg (by omega), hd]
    dsimp only
    rw [dcLoop_enc IH hfuel hsz h0 q rfl wunk t _ [] woth hrest]
    rfl
  | none =>
    rw [dsiSizeSize, Nat.zero_add] at hS ⊢
    rw [encodeDsi, List.nil_append]
    cases others with
    | nil =>
      obtain rfl : unk = [] := Decidable.by_contra fun hne => (wlast hne).elim (· rfl) (· rfl)
      subst hS
      rfl
    | cons d ds =>
      rw [sizeSizes_cons, Nat.add_assoc] at hS ⊢
      rw [WFs] at woth
      have hnd : d.isDsi = false := wslot rfl
      have h2 := sizeSize_ge d
      obtain ⟨hrest, hd⟩ := IH.decode_next hS hfuel hsz woth.1
      rw [encodeDescs, List.append_assoc, if_neg (by omega), hd]
      dsimp only
      split
      · cases hnd
      rw [dcLoop_enc IH hfuel hsz h0 q rfl wunk t _ [d] woth.2 hrest]
      rfl

theorem decodeDescriptor_enc : ∀ n, DecIH n := by
  intro n
  induction n with
  | zero => intro d t p mx _ h; have := sizeSize_ge d; omega
  | succ n ih =>
    intro d t p mx hwf hsz hmx hmx2
    rw [Desc.sizeSize] at hsz hmx ⊢
    rw [decodeDescriptor, if_neg (by omega)]
    -- in every case the tag byte is read and dispatched on
    cases d <;> rw [Desc.sfsOf] at hsz hmx ⊢ <;>
      simp only [encodeDesc, List.cons_append, List.append_assoc, readBE1_cons, Option.isSome_none, Bool.false_eq_true,
        ↓reduceIte, Nat.reduceEqDiff]
    case dc h others =>
      rw [decodeDC_enc n ih h others t _ mx hwf (by omega) hmx hmx2]
      exact res_ok_pos_congr (by simp only [Nat.add_assoc])
    case dsi f x =>
      rw [Desc.WF] at hwf
      rw [Desc.size] at hmx ⊢
      rw [decodeDSI_enc f x t (p + 1) mx hwf hmx hmx2]
      exact res_ok_pos_congr (by simp only [Nat.add_assoc])
    case sl f c m =>
      rw [Desc.WF] at hwf
      rw [Desc.size] at hmx ⊢
      rw [decodeSL_enc f c m t (p + 1) mx hwf.1 hwf.2 hmx hmx2]
      exact res_ok_pos_congr (by simp only [Nat.add_assoc])
    case raw tg f x =>
      rw [Desc.WF] at hwf
      obtain ⟨w1, w3, w4, w5, w6, w7⟩ := hwf
      rw [Desc.size] at hmx ⊢
      simp only [Nat.mod_eq_of_lt w1, w3, w4, w5, w6, ↓reduceIte]
      rw [decodeRaw_enc tg f x t (p + 1) mx w7 hmx hmx2]
      exact res_ok_pos_congr (by simp only [Nat.add_assoc])

theorem esLoop_enc {n size : Nat} (IH : DecIH n) (hn : size ≤ n) (hsz : size < 2 ^ 62) (h0 : 0 < size) (ds : Nat)
    {e : ES} (hu : e.unk = []) {unk : Bytes} (hunk : UnkOK unk) (t : Bytes) {rem : List Desc} (c : Nat)
    (acc : List Desc) (hwf : WFs rem) (hsize : c + (sizeSizes rem + unk.length) = size)
    (hES : ({ e with others := acc ++ rem, unk := unk } : ES).size = size) :
    esLoop (decodeDescriptor n) size ds e n ⟨encodeDescs rem ++ (unk ++ t), ds + c, none⟩ acc
      = (.ok { e with others := acc ++ rem, unk := unk }, ⟨t, ds + size, none⟩) := by
  have hlen : rem.length < n := by
    have := sizeSizes_ge rem
    clear hES  -- `omega` is slow with this equation in sight
    omega
  rw [esLoop_eq, optLoop_enc IH hn hsz ds _ _ hunk t rem n c acc hwf hlen hsize]
  cases e; cases hu
  cases unk with
  | cons b r => rw [if_neg (by simp)]; rfl
  | nil =>
    -- the declared size is compared with the computed one only at this exit
    dsimp only [esExit, ↓reduceIte] at hES ⊢
    rw [hES, W64, Nat.mod_eq_of_lt (Nat.lt_trans hsz (by decide))]
    simp

/-- the second half of the ES descriptor, entered `c` bytes into its payload -/
theorem decodeESBody_enc (n : Nat) (IH : DecIH n) (E : ES) (hw : E.WF) (t : Bytes) (ds c : Nat)
    (hfuel : E.size ≤ n) (hbound : E.size < 2 ^ 62)
    (hSv : c + ((Desc.dc E.dc E.dcOthers).sizeSize + (slSizeSize E.sl + (sizeSizes E.others + E.unk.length)))
      = E.size) :
    decodeESBody (decodeDescriptor n) n E.sfs E.size ds E.esId E.flags E.dependsOn E.url E.ocr
      ⟨encodeDesc (.dc E.dc E.dcOthers) ++ (encodeSl E.sl ++ (encodeDescs E.others ++ (E.unk ++ t))), ds + c, none⟩
      = (.ok E, ⟨t, ds + E.size, none⟩) := by
  have h0 : 0 < E.size := by
    rw [← hSv]; exact Nat.add_pos_right _ (Nat.add_pos_left (Nat.lt_of_lt_of_le (by decide) (sizeSize_ge _)) _)
  have wdc := hw.dc
  have wsl := hw.sl
  have woth := hw.others
  have wslf := hw.slFirst
  have wunk := hw.unk
  clear hw
  obtain ⟨sfs, esId, fl, dep, url, ocr, dc, dcO, sl, others, unk⟩ := E
  dsimp only at wdc wsl woth wslf wunk hSv ⊢
  generalize hS : (ES.mk sfs esId fl dep url ocr dc dcO sl others unk).size = S at hfuel hbound hSv h0 ⊢
  unfold decodeESBody
  dsimp only
  rw [wrapI64_size_sub_read hSv hbound]
  obtain ⟨hSv, hd⟩ := IH.decode_next hSv hfuel hbound wdc
  rw [hd]
  dsimp only
  -- behind the DecoderConfig descriptor: the SLConfig descriptor, `UnknownData` only, or the first other descriptor;
  -- then the loop
  generalize c + (Desc.dc dc dcO).sizeSize = c' at hSv
  rw [wrapI64_size_sub_read hSv hbound]
  cases sl with
  | some fcm =>
    obtain ⟨f, cfg, m⟩ := fcm
    rw [show slSizeSize (some (f, cfg, m)) = (Desc.sl f cfg m).sizeSize from rfl] at hSv ⊢
    rw [SlWF] at wsl
    obtain ⟨hrest, hd⟩ := IH.decode_next hSv hfuel hbound (d := .sl f cfg m) (by rw [Desc.WF]; exact wsl)
    rw [encodeSl, hd]
    dsimp only
    -- `by exact hS`: as a plain term it is elaborated before `e` is known, and the unifier runs into `ES.size`
    rw [esLoop_enc IH hfuel hbound h0 ds rfl wunk t _ [] woth hrest (by exact hS)]
    rfl
  | none =>
    rw [slSizeSize, Nat.zero_add] at hSv ⊢
    rw [encodeSl, List.nil_append]
    cases others with
    | nil =>
      obtain ⟨n, rfl⟩ := Nat.exists_eq_add_one.2 (Nat.lt_of_lt_of_le h0 hfuel)
      obtain ⟨er, s', he, hf, hs'⟩ := UnkOK.decodeDescriptor_error n unk t (ds + c') wunk
      rw [sizeSizes, Nat.zero_add] at hSv ⊢
      simp only [encodeDescs, List.nil_append, he, hf, Bool.false_eq_true, ↓reduceIte, setPos, hs', readBytes_append,
        Nat.add_assoc, hSv]
    | cons d ds' =>
      rw [sizeSizes_cons, Nat.add_assoc] at hSv ⊢
      rw [WFs] at woth
      have hnd : d.isSl = false := wslf rfl
      obtain ⟨hrest, hd⟩ := IH.decode_next hSv hfuel hbound woth.1
      rw [encodeDescs, List.append_assoc, hd]
      split
      · rename_i heq; cases heq
      · rename_i heq; cases heq; cases hnd
      rename_i heq; cases heq
      rw [esLoop_enc IH hfuel hbound h0 ds rfl wunk t _ [d] woth.2 hrest (by exact hS)]
      rfl

/-- an optional 16-bit field of the ES descriptor (dependsOn_ES_ID, OCR_ES_Id), present iff its flag is set -/
theorem optBE2_enc (c : Bool) (v : Nat) (t : Bytes) (p : Nat) (h : if c then v < 2 ^ 16 else v = 0) :
    (if c then readBE 2 ⟨(if c then beBytes 2 v else []) ++ t, p, none⟩
      else (0, ⟨(if c then beBytes 2 v else []) ++ t, p, none⟩))
      = (v, ⟨t, p + (if c then 2 else 0), none⟩) := by
  cases c with
  | false => simp at h; simp [h]
  | true => simp at h; simp [readBE_append 2 v t p h]

theorem readESOpt_enc (fl dep : Nat) (url : Bytes) (ocr : Nat) (t : Bytes) (p : Nat)
    (hdep : if flagDep fl then dep < 2 ^ 16 else dep = 0) (hurl : if flagUrl fl then url.length < 256 else url = [])
    (hocr : if flagOcr fl then ocr < 2 ^ 16 else ocr = 0) :
    readESOpt fl ⟨(if flagDep fl then beBytes 2 dep else []) ++ ((if flagUrl fl then beBytes 1 url.length ++ url else [])
        ++ ((if flagOcr fl then beBytes 2 ocr else []) ++ t)), p, none⟩
      = (dep, url, ocr, ⟨t, p + (if flagDep fl then 2 else 0) + (if flagUrl fl then 1 + url.length else 0)
          + (if flagOcr fl then 2 else 0), none⟩) := by
  unfold readESOpt
  rw [optBE2_enc _ dep _ p hdep]
  dsimp only
  cases hu : flagUrl fl with
  | false =>
    rw [hu] at hurl
    simp only [Bool.false_eq_true, ↓reduceIte, List.nil_append, Nat.add_zero] at hurl ⊢
    rw [optBE2_enc _ ocr t _ hocr, hurl]
  | true =>
    rw [hu] at hurl
    simp only [↓reduceIte, List.append_assoc, readBE_append 1 url.length _ _ (by simpa using hurl), readN_append] at hurl ⊢
    rw [optBE2_enc _ ocr t _ hocr]
    exact congrArg (fun q => (dep, url, ocr, Rd.mk t q none)) (by omega)

theorem decodeES_enc (n : Nat) (IH : DecIH n) (E : ES) (hwf : E.WF) (hfuel : E.sizeSize ≤ n) (t : Bytes)
    (p descSize : Nat) (hds1 : E.sizeSize ≤ descSize) (hds2 : descSize < 2 ^ 62) :
    decodeES (decodeDescriptor n) n descSize ⟨encodeES E ++ t, p, none⟩ = (.ok E, ⟨t, p + E.sizeSize, none⟩) := by
  rw [ES.sizeSize] at hfuel hds1 ⊢
  have hL : (E.sfs : Int) < maxInt := by unfold maxInt; have := hwf.sz.1; omega
  have hle : E.size ≤ 1 + E.sfs + 1 + E.size := Nat.le_add_left _ _
  simp only [decodeES, encodeES, List.cons_append, List.append_assoc, readBE1_cons, ne_eq, not_true_eq_false,
    readSizeSize_write maxInt _ _ _ _ hwf.sz hL, exceeds_false E.sfs E.size descSize (Int.ofNat_le.2 hds1) (Int.ofNat_lt.2 hds2),
    Option.isSome_none, Bool.false_eq_true, ↓reduceIte]
  generalize hds : p + 1 + (E.sfs + 1) = ds
  simp only [readBE_append 2 E.esId _ _ hwf.esId, readBE_append 1 E.flags _ _ hwf.flags,
    readESOpt_enc E.flags E.dependsOn E.url E.ocr _ _ hwf.dep hwf.url hwf.ocr, Nat.add_assoc, Nat.reduceAdd]
  rw [decodeESBody_enc n IH E hwf t ds _ (Nat.le_trans hle hfuel) (Nat.lt_of_le_of_lt (Nat.le_trans hle hds1) hds2)
    (by rw [ES.size]; simp only [Nat.add_assoc])]
  exact res_ok_pos_congr (by rw [← hds]; simp only [Nat.add_assoc])

end Mp4ff.Esds
