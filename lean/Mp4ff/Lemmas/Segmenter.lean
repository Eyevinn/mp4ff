import Mp4ff.Model.Segmenter
import Mp4ff.Lemmas.StblSamples
/-!
C11: the resegmenter loop, `Fragmentify` and the segmenter's intervals.  The two sample loops are `foldl`s; what they
conserve and what they keep invariant comes from one step through `foldl_collect` / `List.foldlRecOn`.  The resegmenter
is the repaired one, whose boundary test does not fire for the first sample.  That every fragment but the last reaches
the requested duration holds only up to lone zero-duration samples (`fragmentify_durations_partial`, with the
counterexample in front of it), and outright for positive durations (`fragmentify_durations_pos`).
-/
namespace Mp4ff.Segmenter
open Mp4ff.Stbl

theorem foldl_collect {σ α} (step : σ → α → σ) (out : σ → List α) (h : ∀ st s, out (step st s) = out st ++ [s]) :
    ∀ (l : List α) (st : σ), out (l.foldl step st) = out st ++ l := by
  intro l
  induction l with
  | nil => intro st; simp
  | cons s ss ih => intro st; rw [List.foldl_cons, ih, h, List.append_assoc]; rfl

theorem forall_mem_concat {α} {P : α → Prop} {l : List α} {x : α} (hl : ∀ a ∈ l, P a) (hx : P x) :
    ∀ a ∈ l ++ [x], P a :=
  List.forall_mem_append.2 ⟨hl, fun _ ha => List.mem_singleton.1 ha ▸ hx⟩

theorem rstep_collect (chunkDur : Nat) (st : RSt) (s : Sample) :
    ((rstep chunkDur st s).done ++ [(rstep chunkDur st s).cur]).flatten = (st.done ++ [st.cur]).flatten ++ [s] := by
  simp only [rstep]
  split <;> simp

def SyncStart (g : List Sample) : Prop := ∃ s rest, g = s :: rest ∧ s.sync = true

/-- what the resegmenter loop keeps: no finished group is empty, nor is the current one once a sample has come, and
    every group after the first starts with a sync sample (a boundary is only put in front of one) -/
structure RInv (st : RSt) : Prop where
  curNe : st.first = false → st.cur ≠ []
  doneNe : ∀ g ∈ st.done, g ≠ []
  sync : ∀ g ∈ (st.done ++ [st.cur]).tail, SyncStart g

theorem rstep_first (chunkDur : Nat) (st : RSt) (s : Sample) : (rstep chunkDur st s).first = false := by
  simp only [rstep]
  split <;> rfl

theorem RInv.step (chunkDur : Nat) (st : RSt) (s : Sample) (h : RInv st) : RInv (rstep chunkDur st s) := by
  obtain ⟨hc, hd, h1⟩ := h
  simp only [rstep]
  split
  · rename_i hcond
    refine ⟨by simp, forall_mem_concat hd (hc (eq_false_of_ne_true hcond.1)), ?_⟩
    rw [List.tail_append_of_ne_nil (by simp)]
    exact forall_mem_concat h1 ⟨s, [], rfl, hcond.2.2⟩
  · refine ⟨by simp, hd, ?_⟩
    cases hdn : st.done with
    | nil => simp
    | cons a l =>
      rw [hdn] at h1
      obtain ⟨x, r, e, hs⟩ := h1 st.cur (by simp)
      exact forall_mem_concat (fun g hg => h1 g (List.mem_append_left _ hg)) ⟨x, r ++ [s], by simp [e], hs⟩

theorem RInv.init (t0 : Nat) : RInv { time := t0 } :=
  ⟨fun h => by simp at h, by simp, by simp⟩

theorem resegment_conserves (chunkDur t0 : Nat) (samples : List Sample) :
    (resegment chunkDur t0 samples).flatten = samples := by
  unfold resegment
  have := foldl_collect (rstep chunkDur) (fun st => (st.done ++ [st.cur]).flatten) (rstep_collect chunkDur) samples
    { time := t0 }
  simpa using this

theorem resegment_starts_sync (chunkDur t0 : Nat) (samples : List Sample) :
    ∀ g ∈ (resegment chunkDur t0 samples).tail, ∃ s rest, g = s :: rest ∧ s.sync = true := by
  unfold resegment
  exact (List.foldlRecOn samples _ (RInv.init t0) fun st h s _ => RInv.step chunkDur st s h).sync

theorem resegment_nonempty (chunkDur t0 : Nat) (samples : List Sample) (h : samples ≠ []) :
    ∀ g ∈ resegment chunkDur t0 samples, g ≠ [] := by
  unfold resegment
  have hinv := List.foldlRecOn samples _ (RInv.init t0) fun st h s _ => RInv.step chunkDur st s h
  have hfirst : (samples.foldl (rstep chunkDur) { time := t0 }).first = false := by
    rcases List.eq_nil_or_concat samples with e | ⟨l, s, rfl⟩
    · exact absurd e h
    · rw [List.concat_eq_append, List.foldl_append]; exact rstep_first chunkDur _ s
  intro g hg
  simp only [List.mem_append, List.mem_singleton] at hg
  rcases hg with hg | rfl
  · exact hinv.doneNe g hg
  · exact hinv.curNe hfirst

theorem fstep_out (duration : Nat) (st : FSt) (s : Sample) :
    (fstep duration st s).out.flatten = st.out.flatten ++ [s] ∧
    ((∀ g ∈ st.out, g ≠ []) → ∀ g ∈ (fstep duration st s).out, g ≠ []) := by
  simp only [fstep]
  split
  · exact ⟨by simp, fun h => forall_mem_concat h (List.cons_ne_nil s [])⟩
  · rcases List.eq_nil_or_concat st.out with e | ⟨init, l, e⟩
    · simp [e]
    · simp only [e, List.concat_eq_append, List.getLast?_append, List.getLast?_singleton, Option.some_or,
        List.dropLast_concat, List.flatten_append, List.flatten_cons, List.flatten_nil, List.append_nil,
        List.append_assoc, true_and]
      exact fun h => forall_mem_concat (fun g hg => h g (List.mem_append_left _ hg)) (by simp)

theorem fragmentify_conserves (duration : Nat) (frags : List (List Sample)) :
    (fragmentify duration frags).flatten = frags.flatten ∧ ∀ g ∈ fragmentify duration frags, g ≠ [] := by
  unfold fragmentify
  have a1 := foldl_collect (fstep duration) (·.out.flatten) (fun st s => (fstep_out duration st s).1) frags.flatten {}
  have a2 := List.foldlRecOn (motive := fun st => ∀ g ∈ st.out, g ≠ []) frags.flatten (fstep duration) (b := {}) (by simp)
    fun st h s _ => (fstep_out duration st s).2 h
  exact ⟨by simpa using a1, a2⟩

/-- what `Fragmentify` really guarantees for a closed fragment: it reached the requested duration exactly with its
    last sample, or it is a single sample of duration 0 -/
def FragOK (duration : Nat) (g : List Sample) : Prop :=
  (duration ≤ (g.map (·.dur)).sum ∧ ((g.dropLast).map (·.dur)).sum < duration) ∨ ∃ s, g = [s] ∧ s.dur = 0

/-- loop invariant of `Fragmentify`: nothing is accumulated and every fragment is closed, or the last fragment is open
    and holds what is accumulated -/
def FInv (duration : Nat) (st : FSt) : Prop :=
  (st.cum = 0 ∧ ∀ g ∈ st.out, FragOK duration g) ∨
  (∃ init l, st.out = init ++ [l] ∧ (∀ g ∈ init, FragOK duration g) ∧ st.cum = (l.map (·.dur)).sum ∧
    0 < st.cum ∧ st.cum < duration)

theorem FInv.step (duration : Nat) (hd : 0 < duration) (st : FSt) (s : Sample) (h : FInv duration st)
    (hb : st.cum + s.dur < U32) : FInv duration (fstep duration st s) := by
  simp only [fstep, Nat.mod_eq_of_lt hb]
  rcases h with ⟨h0, hall⟩ | ⟨init, l, e, hall, hcum, hpos, hlt⟩
  · rw [if_pos h0, h0, Nat.zero_add]
    by_cases hge : s.dur ≥ duration
    · rw [if_pos hge]
      exact Or.inl ⟨rfl, forall_mem_concat hall (Or.inl ⟨hge, hd⟩)⟩
    · rw [if_neg hge]
      by_cases hz : s.dur = 0
      · exact Or.inl ⟨hz, forall_mem_concat hall (Or.inr ⟨s, rfl, hz⟩)⟩
      · exact Or.inr ⟨st.out, [s], rfl, hall, by simp, Nat.pos_of_ne_zero hz, Nat.lt_of_not_le hge⟩
  · rw [if_neg (Nat.ne_of_gt hpos), e]
    simp only [List.getLast?_append, List.getLast?_singleton, Option.some_or, List.dropLast_concat]
    by_cases hge : st.cum + s.dur ≥ duration
    · rw [if_pos hge]
      refine Or.inl ⟨rfl, forall_mem_concat hall (Or.inl ⟨by simpa [← hcum] using hge, ?_⟩)⟩
      rw [List.dropLast_concat]; exact hcum ▸ hlt
    · rw [if_neg hge]
      exact Or.inr ⟨init, l ++ [s], rfl, hall, by simp [hcum], Nat.add_pos_left hpos _, Nat.lt_of_not_le hge⟩

/-- not an instance of `List.foldlRecOn`: a step keeps `FInv` only while `cum` does not wrap, and that bound involves the
    durations still to come -/
theorem FInv.foldl (duration : Nat) (hd : 0 < duration) (samples : List Sample) : ∀ st : FSt, FInv duration st →
    st.cum + (samples.map (·.dur)).sum < U32 → FInv duration (samples.foldl (fstep duration) st) := by
  induction samples with
  | nil => intro st h _; exact h
  | cons s ss ih =>
    intro st h hb
    simp only [List.map_cons, List.sum_cons] at hb
    simp only [List.foldl_cons]
    refine ih _ (FInv.step duration hd st s h (by omega)) ?_
    have : (fstep duration st s).cum ≤ st.cum + s.dur := by
      simp only [fstep, Nat.mod_eq_of_lt (show st.cum + s.dur < U32 by omega)]
      split <;> omega
    omega

/-- Without the zero-duration alternative the statement of `fragmentify_durations_partial` is false: a zero-duration
    sample arriving when `cumDur = 0` is put in a fragment of its own that is closed at once.  Here the result is
    `[[s1], [s2, s3]]`, and `[s1]` has total duration 0 < 10. -/
example : ∃ g ∈ (fragmentify 10 [[⟨0,0,true,1⟩, ⟨5,0,true,2⟩, ⟨5,0,true,3⟩]]).dropLast,
    ¬ (10 ≤ (g.map (·.dur)).sum) := by decide

theorem fragmentify_durations_partial (duration : Nat) (hd : 0 < duration) (frags : List (List Sample))
    (hs : ((frags.flatten).map (·.dur)).sum < U32) :
    ∀ g ∈ (fragmentify duration frags).dropLast,
      (duration ≤ (g.map (·.dur)).sum ∧ ((g.dropLast).map (·.dur)).sum < duration) ∨
      ∃ s, g = [s] ∧ s.dur = 0 := by
  unfold fragmentify
  have := FInv.foldl duration hd frags.flatten {} (Or.inl ⟨rfl, by simp⟩) (by simpa using hs)
  intro g hg
  rcases this with ⟨_, hall⟩ | ⟨init, l, e, hall, _⟩
  · exact hall g (List.dropLast_subset _ hg)
  · rw [e, List.dropLast_concat] at hg
    exact hall g hg

theorem fragmentify_durations_pos (duration : Nat) (hd : 0 < duration) (frags : List (List Sample))
    (hs : ((frags.flatten).map (·.dur)).sum < U32) (hp : ∀ s ∈ frags.flatten, 0 < s.dur) :
    ∀ g ∈ (fragmentify duration frags).dropLast,
      duration ≤ (g.map (·.dur)).sum ∧ ((g.dropLast).map (·.dur)).sum < duration := by
  intro g hg
  rcases fragmentify_durations_partial duration hd frags hs g hg with h | ⟨s, rfl, hz⟩
  · exact h
  · exfalso
    have hmem : s ∈ (fragmentify duration frags).flatten :=
      List.mem_flatten.2 ⟨[s], List.dropLast_subset _ hg, by simp⟩
    rw [(fragmentify_conserves duration frags).1] at hmem
    have := hp s hmem
    omega

/-- the sample numbers of an inclusive interval -/
def span (iv : Nat × Nat) : List Nat := List.range' iv.1 (iv.2 + 1 - iv.1)

/-- the answers `GetSampleNrAtTime` gives for the 2nd, 3rd, … sync point -/
def cutPoints (nrAt : Nat → Option Nat) (conv : Nat → Nat) (pts : List SyncPoint) : List (Option Nat) :=
  pts.tail.map fun p => nrAt (conv p.decodeTime)

theorem segmentIntervals_spec (total : Nat) (nrAt : Nat → Option Nat) (conv : Nat → Nat) (htot : total + 1 < U32) :
    ∀ (pts : List SyncPoint) (start next : Nat) (cuts : List Nat) (s : Nat), pts ≠ [] →
      s = (if next ≠ 0 then next else start) →
      cutPoints nrAt conv pts = cuts.map some → cuts.Pairwise (· ≤ ·) →
      (∀ n ∈ cuts, s ≤ n ∧ n ≤ total + 1) → 1 ≤ s →
      ∃ ivs, segmentIntervals total nrAt conv pts start next = some ivs ∧ ivs.length = pts.length ∧
        ivs.flatMap span = List.range' s (total + 1 - s) ∧ ivs.map (·.1) = s :: cuts := by
  intro pts
  induction pts with
  | nil => intro _ _ _ _ h; exact absurd rfl h
  | cons p1 rest ih =>
    intro start next cuts s _ hs hc hsorted hrange h1
    cases rest with
    | nil =>
      cases cuts with
      | nil =>
        refine ⟨[(s, total)], ?_, rfl, by simp [span], rfl⟩
        simp only [segmentIntervals, hs]
      | cons _ _ => simp [cutPoints] at hc
    | cons p2 rest =>
      cases cuts with
      | nil => simp [cutPoints] at hc
      | cons n cuts =>
        simp only [cutPoints, List.tail_cons, List.map_cons, List.cons.injEq] at hc
        obtain ⟨hn, hc'⟩ := hc
        have hr := hrange n (by simp)
        have hn1 : 1 ≤ n := Nat.le_trans h1 hr.1
        rw [List.pairwise_cons] at hsorted
        obtain ⟨ivs, e1, e2, e3, e4⟩ := ih s n cuts n (by simp) (by rw [if_pos (Nat.ne_of_gt hn1)])
          (by simpa [cutPoints] using hc') hsorted.2
          (fun m hm => ⟨hsorted.1 m hm, (hrange m (by simp [hm])).2⟩) hn1
        have hsp : span (s, n - 1) = List.range' s (n - s) := by
          simp only [span]; rw [Nat.sub_add_cancel hn1]
        have hmod : (n + U32 - 1) % U32 = n - 1 := wrap_sub hn1 (Nat.lt_of_le_of_lt hr.2 htot)
        refine ⟨(s, n - 1) :: ivs, ?_, by simp [e2], ?_, by simp [e4]⟩
        · simp only [segmentIntervals, hn, ← hs, Option.bind_eq_bind, Option.bind_some, e1, hmod]
        · rw [List.flatMap_cons, e3, hsp, range'_append_sub hr.1 hr.2]

theorem intervals_partition (total : Nat) (nrAt : Nat → Option Nat) (conv : Nat → Nat) (pts : List SyncPoint)
    (hne : pts ≠ []) (cuts : List Nat) (hc : cutPoints nrAt conv pts = cuts.map some)
    (hsorted : cuts.Pairwise (· ≤ ·)) (hrange : ∀ n ∈ cuts, 1 ≤ n ∧ n ≤ total + 1) (htot : total + 1 < U32) :
    ∃ ivs, intervals total nrAt conv pts = some ivs ∧ ivs.length = pts.length ∧
      ivs.flatMap span = List.range' 1 total ∧
      ivs.map (·.1) = 1 :: cuts := by
  have := segmentIntervals_spec total nrAt conv htot pts 1 0 cuts 1 hne (by simp) hc hsorted hrange (Nat.le_refl _)
  simpa [intervals] using this

theorem nrAt_mono (b : Stts) (h : b.OK) (hpos : ∀ d ∈ b.delta, 0 < d) (hc : ∀ c ∈ b.count, 0 < c)
    (hN : b.durations.length + 1 < U32) (t1 t2 : Nat) (h12 : t1 ≤ t2) (ht : t2 < b.durations.sum) :
    ∃ k1 k2, b.getSampleNrAtTime t1 = some k1 ∧ b.getSampleNrAtTime t2 = some k2 ∧ k1 ≤ k2 ∧ 1 ≤ k1 ∧
      k2 ≤ b.durations.length + 1 := by
  obtain ⟨k1, a1, a2, a3, a4, a5⟩ := (getSampleNrAtTime_spec b h hpos hc hN t1).1 (by omega)
  obtain ⟨k2, b1, b2, b3, b4, b5⟩ := (getSampleNrAtTime_spec b h hpos hc hN t2).1 ht
  refine ⟨k1, k2, a1, b1, ?_, a2, b3⟩
  apply Nat.le_of_not_lt
  intro hlt
  have := a5 k2 b2 hlt
  omega

theorem nrAt_of_start (b : Stts) (h : b.OK) (hpos : ∀ d ∈ b.delta, 0 < d) (hc : ∀ c ∈ b.count, 0 < c)
    (hN : b.durations.length + 1 < U32) (n : Nat) (h1 : 1 ≤ n) (hn : n ≤ b.durations.length) :
    b.getSampleNrAtTime (startTime b.durations n) = some n := by
  have hp : ∀ d ∈ b.durations, 0 < d := fun d hd => hpos d (mem_expandRuns _ _ d hd)
  have hlt : startTime b.durations n < b.durations.sum := by
    have := startTime_strictMono b.durations hp n (b.durations.length + 1) h1 (by omega) (Nat.le_refl _)
    simpa [startTime] using this
  obtain ⟨k, a1, a2, a3, a4, a5⟩ := (getSampleNrAtTime_spec b h hpos hc hN _).1 hlt
  rw [a1]
  congr 1
  rcases Nat.lt_trichotomy k n with hk | hk | hk
  · have := startTime_strictMono b.durations hp k n a2 hk (by omega)
    omega
  · exact hk
  · have := a5 n h1 hk
    omega

end Mp4ff.Segmenter
