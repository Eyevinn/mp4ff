import Mp4ff.Model.Protect
/-!
The trex loop of `DecryptInit` (`Mp4ff.Protect.pairTrexs`): every track info gets the trex box of its own track ID,
whatever the order of the trex boxes in mvex.
-/
namespace Mp4ff.Protect

theorem assignTrex_ids (tid tag : Nat) (l : List (Nat × Option Nat)) :
    (assignTrex tid tag l).map (·.1) = l.map (·.1) := by
  fun_induction assignTrex tid tag l <;> simp [*]

theorem pairTrexs_ids (ids : List Nat) (trexs : List (Nat × Nat)) : (pairTrexs ids trexs).map (·.1) = ids :=
  List.foldlRecOn (motive := fun acc : List (Nat × Option Nat) => acc.map (·.1) = ids) trexs _ (by simp [Function.comp_def])
    fun acc h t _ => by rw [assignTrex_ids, h]

theorem assignTrex_mem (tid tag : Nat) (l : List (Nat × Option Nat)) (p : Nat × Option Nat)
    (h : p ∈ assignTrex tid tag l) : p ∈ l ∨ p = (tid, some tag) := by
  fun_induction assignTrex tid tag l <;> simp_all
  -- the head is the new pair, or it stays and the tail comes under the induction hypothesis
  · exact h.elim .inr (.inl ∘ .inr)
  · next ih => exact h.elim (.inl ∘ .inl) fun h => (ih h).imp_left .inr

theorem pairTrexs_byID (ids : List Nat) (trexs : List (Nat × Nat)) (id tag : Nat)
    (h : (id, some tag) ∈ pairTrexs ids trexs) : (id, tag) ∈ trexs := by
  refine List.foldlRecOn (motive := fun acc : List (Nat × Option Nat) => (id, some tag) ∈ acc → (id, tag) ∈ trexs) trexs _ (by simp)
    (fun acc ih t ht hm => ?_) h
  rcases assignTrex_mem _ _ _ _ hm with hm | e
  · exact ih hm
  · simp only [Prod.mk.injEq, Option.some.injEq] at e
    rw [e.1, e.2]; exact ht

theorem assignTrex_map (tid tag : Nat) (f : Nat → Option Nat) (ids : List Nat) (h : ids.Nodup) :
    assignTrex tid tag (ids.map fun id => (id, f id))
      = ids.map fun id => (id, if id = tid then some tag else f id) := by
  induction ids with
  | nil => rfl
  | cons a r ih =>
    have hn := List.nodup_cons.mp h
    simp only [List.map_cons, assignTrex]
    by_cases ha : a = tid
    · -- the box goes to the first info with the ID (`break`); by distinctness there is no other
      subst ha
      simp only [if_true]
      congr 1
      exact List.map_congr_left fun b hb => by simp [show b ≠ a from fun e => hn.1 (e ▸ hb)]
    · simp only [ha, if_false, ih hn.2]

/-- `f`: what the track infos hold before the loop, a variable so that the induction over the trex boxes goes through -/
theorem foldl_assignTrex_map (trexs : List (Nat × Nat)) (f : Nat → Option Nat) (ids : List Nat) (h : ids.Nodup) :
    trexs.foldl (fun acc t => assignTrex t.1 t.2 acc) (ids.map fun id => (id, f id))
      = ids.map fun id => (id, (trexOf trexs id).or (f id)) := by
  induction trexs generalizing f with
  | nil => simp [trexOf]
  | cons t r ih =>
    rw [List.foldl_cons, assignTrex_map _ _ _ _ h, ih]
    refine List.map_congr_left fun id _ => ?_
    simp only [trexOf]
    cases trexOf r id <;> by_cases e : id = t.1 <;> simp [e]

theorem pairTrexs_spec (ids : List Nat) (trexs : List (Nat × Nat)) (h : ids.Nodup) :
    pairTrexs ids trexs = ids.map fun id => (id, trexOf trexs id) := by
  simpa [pairTrexs] using foldl_assignTrex_map trexs (fun _ => none) ids h

theorem trexOf_some_mem (trexs : List (Nat × Nat)) (id tag : Nat) (h : trexOf trexs id = some tag) :
    (id, tag) ∈ trexs := by
  fun_induction trexOf trexs id <;> simp_all

theorem trexOf_none (trexs : List (Nat × Nat)) (id : Nat) :
    trexOf trexs id = none ↔ id ∉ trexs.map (·.1) := by
  induction trexs with
  | nil => simp [trexOf]
  | cons t r ih =>
    obtain ⟨a, b⟩ := t
    simp only [trexOf, List.map_cons, List.mem_cons, not_or, ← ih]
    cases trexOf r id <;> by_cases e : id = a <;> simp [e]

theorem trexOf_of_mem (trexs : List (Nat × Nat)) (id tag : Nat) (hn : (trexs.map (·.1)).Nodup)
    (h : (id, tag) ∈ trexs) : trexOf trexs id = some tag := by
  induction trexs with
  | nil => cases h
  | cons t r ih =>
    have hn' := List.nodup_cons.mp hn
    rcases List.mem_cons.mp h with rfl | h
    · simp [trexOf, (trexOf_none r id).mpr hn'.1]
    · simp [trexOf, ih hn'.2 h]

theorem trexOf_perm (trexs trexs' : List (Nat × Nat)) (id : Nat) (hn : (trexs.map (·.1)).Nodup)
    (hp : trexs.Perm trexs') : trexOf trexs id = trexOf trexs' id := by
  have hn' : (trexs'.map (·.1)).Nodup := (hp.map (·.1)).nodup_iff.mp hn
  -- with one box per track ID the lookup finds exactly the members, and a permutation has the same members
  exact Option.ext fun tag =>
    ⟨fun h => trexOf_of_mem _ _ _ hn' (hp.mem_iff.mp (trexOf_some_mem _ _ _ h)),
     fun h => trexOf_of_mem _ _ _ hn (hp.mem_iff.mpr (trexOf_some_mem _ _ _ h))⟩

theorem pairTrexs_perm (ids : List Nat) (trexs trexs' : List (Nat × Nat)) (h : ids.Nodup)
    (hn : (trexs.map (·.1)).Nodup) (hp : trexs.Perm trexs') : pairTrexs ids trexs = pairTrexs ids trexs' := by
  rw [pairTrexs_spec ids trexs h, pairTrexs_spec ids trexs' h]
  apply List.map_congr_left
  intro id _
  rw [trexOf_perm trexs trexs' id hn hp]

theorem pairTrexs_complete (ids : List Nat) (trexs : List (Nat × Nat)) (id tag : Nat) (h : ids.Nodup)
    (hn : (trexs.map (·.1)).Nodup) (hid : id ∈ ids) (ht : (id, tag) ∈ trexs) :
    (id, some tag) ∈ pairTrexs ids trexs := by
  rw [pairTrexs_spec ids trexs h]
  exact List.mem_map.mpr ⟨id, hid, by rw [trexOf_of_mem trexs id tag hn ht]⟩

end Mp4ff.Protect
