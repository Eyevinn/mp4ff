import Mp4ff.Model.HevcSps
import Mp4ff.Lemmas.BitSyn
/-!
C16 for the bitstream-syntax DSL: more fuel never changes a parse, and two syntactic fuel bounds that are always
enough, the step count `fuelNeedL` and the sharper recursion depth `depthL`, with the lemmas by which depth and
output bounds of concrete syntaxes are computed; at the end those of `varFld` and `scalingListData`
(Model/HevcSps.lean), which several syntaxes share.
-/
namespace Mp4ff.BitSyn
open Mp4ff.Bits

mutual
/-- static bound on the number of values a syntax can yield -/
def maxEntries : Syn → Nat
  | .fld _ _ | .flag _ | .ue _ | .se _ => 1
  | .cond _ body => maxEntriesL body
  | .rep cap _ body => cap * maxEntriesL body
  | .seterr _ => 0
  | .abort _ => 1
def maxEntriesL : List Syn → Nat
  | [] => 0
  | s :: rest => maxEntries s + maxEntriesL rest
end

mutual
/-- static bound on the fuel a syntax needs -/
def fuelNeed : Syn → Nat
  | .fld _ _ | .flag _ | .ue _ | .se _ | .seterr _ | .abort _ => 1
  | .cond _ body => 1 + fuelNeedL body
  | .rep cap _ body => 1 + cap * (1 + fuelNeedL body)
def fuelNeedL : List Syn → Nat
  | [] => 1
  | s :: rest => fuelNeed s + fuelNeedL rest
end

theorem parse_fuel_mono (f g : Nat) (hfg : f ≤ g) : ∀ (L : List Syn) (acc : Trace) (e : ER) r,
    parse f L acc e = some r → parse g L acc e = some r := by
  intro L acc e r h
  obtain ⟨d, rfl⟩ := Nat.exists_eq_add_of_le hfg
  -- along the reader's own recursion: every call has its induction hypothesis, for the same surplus `d`
  fun_induction parse f L acc e generalizing r
  case case1 => cases h
  all_goals
    rw [Nat.succ_add]
    simp [parse, *] at h ⊢

theorem maxEntries_of_name {s : Syn} {nm : String} (hn : s.name? = some nm) : maxEntries s = 1 := by
  cases s <;> first | rfl | cases hn

/-- **totality and bounded output for any fuel measure that decreases along the reader's calls**: on the rest of a
    list, into a body, on a repetition with one iteration less -/
theorem parse_total_of (need : List Syn → Nat) (h0 : ∀ L, 0 < need L)
    (hrest : ∀ s rest, need rest < need (s :: rest))
    (hcond : ∀ p body rest, need body < need (.cond p body :: rest))
    (hrep : ∀ cap n body rest k, k < cap → need body < need (.rep cap n body :: rest) ∧
      need (.rep k (fun _ => k) body :: rest) < need (.rep cap n body :: rest)) :
    ∀ (f : Nat) (L : List Syn) (acc : Trace) (e : ER), need L ≤ f →
      ∃ acc' e', parse f L acc e = some (acc', e') ∧ acc'.length ≤ acc.length + maxEntriesL L := by
  intro f
  induction f with
  | zero => intro L acc e h; have := h0 L; omega
  | succ f ih =>
    intro L acc e hf
    cases hs : stopped acc with
    | true => exact ⟨acc, e, parse_stopped _ _ _ _ hs, by omega⟩
    | false =>
    match L with
    | [] => exact ⟨acc, e, rfl, by omega⟩
    | s :: rest =>
      have hr : need rest ≤ f := by have := hrest s rest; omega
      induction s using Syn.leafCases with
      | leaf s nm hn =>
        obtain ⟨a, e', h1, h2⟩ := ih rest (acc ++ [(nm, (e.readOp (s.op 0)).2)]) (e.readOp (s.op 0)).1 hr
        refine ⟨a, e', by rw [parse_leaf hn 0 _ _ _ _ hs]; exact h1, ?_⟩
        simp only [maxEntriesL, maxEntries_of_name hn]
        simp only [List.length_append, List.length_cons, List.length_nil] at h2
        omega
      | seterr p =>
        obtain ⟨a, e', h1, h2⟩ := ih rest acc (if p acc then { e with err := true } else e) hr
        exact ⟨a, e', by simpa only [parse, hs, Bool.false_eq_true, if_false] using h1,
          by simp only [maxEntriesL, maxEntries]; omega⟩
      | abort p =>
        simp only [maxEntriesL, maxEntries, parse, hs, Bool.false_eq_true, if_false]
        cases hp : p acc with
        | true => exact ⟨_, _, rfl, by simp⟩
        | false =>
          obtain ⟨a, e', h1, h2⟩ := ih rest acc e hr
          exact ⟨a, e', h1, by omega⟩
      | cond p body =>
        simp only [maxEntriesL, maxEntries, parse, hs, Bool.false_eq_true, if_false]
        cases hp : p acc with
        | false =>
          obtain ⟨a, e', h1, h2⟩ := ih rest acc e hr
          exact ⟨a, e', h1, by omega⟩
        | true =>
          obtain ⟨a1, e1, b1, b2⟩ := ih body acc e (by have := hcond p body rest; omega)
          obtain ⟨a, e', h1, h2⟩ := ih rest a1 e1 hr
          exact ⟨a, e', by simpa only [b1, if_true] using h1, by omega⟩
      | rep cap n body =>
        simp only [maxEntriesL, maxEntries, parse, hs, Bool.false_eq_true, if_false]
        cases hn : min (n acc) cap with
        | zero =>
          obtain ⟨a, e', h1, h2⟩ := ih rest acc e hr
          exact ⟨a, e', h1, by omega⟩
        | succ k =>
          obtain ⟨hb, hk⟩ := hrep cap n body rest k (by omega)
          have m2 : (k + 1) * maxEntriesL body ≤ cap * maxEntriesL body := Nat.mul_le_mul_right _ (by omega)
          rw [Nat.succ_mul] at m2
          obtain ⟨a1, e1, b1, b2⟩ := ih body acc e (by omega)
          obtain ⟨a, e', h1, h2⟩ := ih (.rep k (fun _ => k) body :: rest) a1 e1 (by omega)
          simp only [maxEntriesL, maxEntries] at h2
          exact ⟨a, e', by simpa only [b1] using h1, by omega⟩

theorem fuelNeedL_pos (L : List Syn) : 1 ≤ fuelNeedL L := by
  induction L with
  | nil => simp [fuelNeedL]
  | cons s r ih => simp only [fuelNeedL]; omega

theorem parse_total (L : List Syn) : ∀ (f : Nat) (acc : Trace) (e : ER), fuelNeedL L ≤ f →
    ∃ acc' e', parse f L acc e = some (acc', e') ∧ acc'.length ≤ acc.length + maxEntriesL L := by
  intro f acc e
  refine parse_total_of fuelNeedL fuelNeedL_pos ?_ ?_ ?_ f L acc e
  · intro s rest
    cases s <;> simp only [fuelNeedL, fuelNeed] <;> omega
  · intro p body rest
    simp only [fuelNeedL, fuelNeed]; omega
  · intro cap n body rest k hk
    have m1 : (k + 1) * (1 + fuelNeedL body) ≤ cap * (1 + fuelNeedL body) := Nat.mul_le_mul_right _ hk
    rw [Nat.succ_mul] at m1
    simp only [fuelNeedL, fuelNeed]; omega

/-! `parse` spends its fuel as recursion depth, not as a step count: `depthL` is the sharper bound. -/

/-- iterations of a repetition (0 for the other elements) -/
def repCount : Syn → Nat
  | .rep cap _ _ => cap
  | _ => 0

mutual
/-- depth needed inside an element -/
def bodyDepth : Syn → Nat
  | .fld _ _ | .flag _ | .ue _ | .se _ | .seterr _ | .abort _ => 0
  | .cond _ body => depthL body
  | .rep _ _ body => depthL body
/-- recursion depth of `parse` on a syntax -/
def depthL : List Syn → Nat
  | [] => 1
  | s :: rest => 1 + repCount s + max (bodyDepth s) (depthL rest)
end

theorem depthL_pos (L : List Syn) : 1 ≤ depthL L := by
  cases L with
  | nil => simp [depthL]
  | cons s r => simp only [depthL]; omega

/-! A bound on the depth holds iff it holds along every branch.  Used as `↓` simp lemmas the four lemmas below turn
`depthL L + 0 ≤ k` for a syntax term `L` into one linear inequality per list end; there is no `max` left for `omega`
to split on, and simp never enters the predicates of the term.

None of them holds by `rfl`, and that matters: a step simp does by `rfl` (the defining equations of `depthL`,
`bodyDepth`, `repCount`; unfolding the syntax) is re-checked by the kernel as a conversion, and the kernel, meeting
`_ + _` with a closed operand, evaluates the operand, and `varFld nm w 255` alone makes that very dear.  So the syntax is
unfolded first, while the goal is still `depthL L ≤ k`, and only then split. -/

theorem depthL_add_le_nil (d k : Nat) : depthL [] + d ≤ k ↔ d + 1 ≤ k := by
  simp only [depthL]; omega

/-- value elements and guards: nothing to descend into.  One statement for the six of them; `simp` takes each
    conjunct as a rewrite rule of its own, so that no side condition is left to discharge at every element -/
theorem depthL_add_le_leaf (rest : List Syn) (d k : Nat) :
    (∀ nm w, depthL (.fld nm w :: rest) + d ≤ k ↔ depthL rest + (d + 1) ≤ k) ∧
    (∀ nm, depthL (.flag nm :: rest) + d ≤ k ↔ depthL rest + (d + 1) ≤ k) ∧
    (∀ nm, depthL (.ue nm :: rest) + d ≤ k ↔ depthL rest + (d + 1) ≤ k) ∧
    (∀ nm, depthL (.se nm :: rest) + d ≤ k ↔ depthL rest + (d + 1) ≤ k) ∧
    (∀ p, depthL (.seterr p :: rest) + d ≤ k ↔ depthL rest + (d + 1) ≤ k) ∧
    (∀ p, depthL (.abort p :: rest) + d ≤ k ↔ depthL rest + (d + 1) ≤ k) := by
  simp only [depthL, bodyDepth, repCount, forall_const, and_self]
  omega

theorem depthL_add_le_cond (p : Trace → Bool) (body rest : List Syn) (d k : Nat) :
    depthL (.cond p body :: rest) + d ≤ k ↔ depthL body + (d + 1) ≤ k ∧ depthL rest + (d + 1) ≤ k := by
  simp only [depthL, bodyDepth, repCount]; omega

theorem depthL_add_le_rep (c : Nat) (n : Trace → Nat) (body rest : List Syn) (d k : Nat) :
    depthL (.rep c n body :: rest) + d ≤ k ↔
      depthL body + (d + (c + 1)) ≤ k ∧ depthL rest + (d + (c + 1)) ≤ k := by
  simp only [depthL, bodyDepth, repCount]; omega

/-- the entry into the branch lemmas; a lemma and not a `show` at the place of use, so that the kernel checks
    `depthL L + 0 ≡ depthL L` here, for a variable `L`, and not at a concrete syntax (where it would evaluate it) -/
theorem depthL_le_of_add {L : List Syn} {k : Nat} (h : depthL L + 0 ≤ k) : depthL L ≤ k := h

theorem parse_total_depth : ∀ (f : Nat) (L : List Syn) (acc : Trace) (e : ER), depthL L ≤ f →
    ∃ acc' e', parse f L acc e = some (acc', e') ∧ acc'.length ≤ acc.length + maxEntriesL L := by
  refine parse_total_of depthL depthL_pos ?_ ?_ ?_
  · intro s rest; simp only [depthL]; omega
  · intro p body rest; simp only [depthL, bodyDepth, repCount]; omega
  · intro cap n body rest k hk; simp only [depthL, bodyDepth, repCount]; omega

/-! The defining equations of `maxEntriesL` and `maxEntries` once more as rewrite rules proper (not by `rfl`, for the
reason given above), to compute `maxEntriesL` of a syntax term that contains a costly closed part. -/

theorem maxEntriesL_nil : maxEntriesL [] = 0 := by rw [maxEntriesL]
theorem maxEntriesL_cons (s : Syn) (rest : List Syn) : maxEntriesL (s :: rest) = maxEntries s + maxEntriesL rest := by
  rw [maxEntriesL]
theorem maxEntries_fld (nm : String) (k : Nat) : maxEntries (.fld nm k) = 1 := by rw [maxEntries]
theorem maxEntries_flag (nm : String) : maxEntries (.flag nm) = 1 := by rw [maxEntries]
theorem maxEntries_ue (nm : String) : maxEntries (.ue nm) = 1 := by rw [maxEntries]
theorem maxEntries_se (nm : String) : maxEntries (.se nm) = 1 := by rw [maxEntries]
theorem maxEntries_seterr (p : Trace → Bool) : maxEntries (.seterr p) = 0 := by rw [maxEntries]
theorem maxEntries_abort (p : Trace → Bool) : maxEntries (.abort p) = 1 := by rw [maxEntries]
theorem maxEntries_cond (p : Trace → Bool) (body : List Syn) : maxEntries (.cond p body) = maxEntriesL body := by
  rw [maxEntries]
theorem maxEntries_rep (c : Nat) (n : Trace → Nat) (body : List Syn) :
    maxEntries (.rep c n body) = c * maxEntriesL body := by
  rw [maxEntries]

theorem depthL_append_le : ∀ (a b : List Syn), depthL (a ++ b) ≤ depthL a + depthL b
  | [], b => by simp only [List.nil_append, depthL]; omega
  | s :: a, b => by
    have := depthL_append_le a b
    simp only [List.cons_append, depthL]
    omega

theorem maxEntriesL_append : ∀ (a b : List Syn), maxEntriesL (a ++ b) = maxEntriesL a + maxEntriesL b
  | [], b => by simp [maxEntriesL]
  | s :: a, b => by
    have := maxEntriesL_append a b
    simp only [List.cons_append, maxEntriesL]
    omega

end Mp4ff.BitSyn

namespace Mp4ff.HevcSps
open Mp4ff.BitSyn

theorem depthL_varFld_append (nm : String) (w : Trace → Nat) : ∀ (k : Nat) (rest : List Syn),
    depthL (varFld nm w k ++ rest) = k + 1 + max 2 (depthL rest) := by
  have alt : ∀ (p : Trace → Bool) (j : Nat) (rest : List Syn),
      depthL (.cond p [.fld nm j] :: rest) = 1 + max 2 (depthL rest) := by
    intro p j rest; simp only [depthL, bodyDepth, repCount, Nat.add_zero, Nat.zero_max]
  intro k
  induction k with
  | zero => intro rest; simp only [varFld, List.cons_append, List.nil_append]; rw [alt, Nat.zero_add]
  | succ k ih =>
    intro rest
    simp only [varFld, List.append_assoc, List.cons_append, List.nil_append]
    rw [ih, alt, Nat.max_eq_right (by omega), ← Nat.add_assoc]

theorem depthL_varFld (nm : String) (w : Trace → Nat) (k : Nat) : depthL (varFld nm w k) = k + 3 := by
  have := depthL_varFld_append nm w k []
  simp only [List.append_nil, depthL] at this
  omega

/-- the branch form of `depthL_varFld_append`, for a `varFld` in the middle of a list -/
theorem depthL_add_le_varFld_append (nm : String) (w : Trace → Nat) (n : Nat) (rest : List Syn) (d k : Nat) :
    depthL (varFld nm w n ++ rest) + d ≤ k ↔ d + (n + 3) ≤ k ∧ depthL rest + (d + (n + 1)) ≤ k := by
  rw [depthL_varFld_append]; omega

theorem maxEntriesL_varFld (nm : String) (w : Trace → Nat) : ∀ k, maxEntriesL (varFld nm w k) = k + 1
  | 0 => by simp [varFld, maxEntriesL, maxEntries]
  | k + 1 => by
    have := maxEntriesL_varFld nm w k
    simp only [varFld, maxEntriesL_append, this, maxEntriesL, maxEntries]

theorem depthL_scalingListData : depthL scalingListData = 128 := by decide +kernel

theorem maxEntriesL_scalingListData : maxEntriesL scalingListData = 1040 := by decide +kernel

end Mp4ff.HevcSps
