import Mp4ff.Model.SampleTables
/-!
Run-length tables and their per-sample expansion `expandRuns counts vals` (stts, ctts; the specification side of C09,
C10, C11).  The expansion of `(c :: cs, d :: ds)` is `replicate c d ++ expandRuns cs ds`, so everything is proved by
peeling one run: a position is either inside the first run or `c` further on in the rest.  Run `i` holds the positions
`m` with `(cs.take i).sum ≤ m < (cs.take (i + 1)).sum`; the searches and walks of the queries produce that `i`, the
lemmas here consume it.
-/
namespace Mp4ff.Stbl

theorem expandRuns_cons {α} (c : Nat) (cs : List Nat) (d : α) (ds : List α) :
    expandRuns (c :: cs) (d :: ds) = List.replicate c d ++ expandRuns cs ds := by
  simp [expandRuns]

theorem expandRuns_nil_left {α} (ds : List α) : expandRuns [] ds = [] := by
  simp [expandRuns]

theorem expandRuns_nil_right {α} (cs : List Nat) : expandRuns cs ([] : List α) = [] := by
  simp [expandRuns]

theorem getElem?_run_lt {α} (c : Nat) (d : α) (E : List α) {m : Nat} (h : m < c) :
    (List.replicate c d ++ E)[m]? = some d := by
  rw [List.getElem?_append_left (by rwa [List.length_replicate]), List.getElem?_replicate, if_pos h]

theorem getElem?_run_add {α} (c : Nat) (d : α) (E : List α) (m : Nat) :
    (List.replicate c d ++ E)[c + m]? = E[m]? := by
  rw [List.getElem?_append_right (by rw [List.length_replicate]; exact Nat.le_add_right c m),
    List.length_replicate, Nat.add_sub_cancel_left]

theorem take_run_le {α} (c : Nat) (d : α) (E : List α) {j : Nat} (h : j ≤ c) :
    (List.replicate c d ++ E).take j = List.replicate j d := by
  rw [List.take_append, List.take_replicate, List.length_replicate, Nat.min_eq_left h, Nat.sub_eq_zero_of_le h,
    List.take_zero, List.append_nil]

theorem take_run_add {α} (c : Nat) (d : α) (E : List α) (j : Nat) :
    (List.replicate c d ++ E).take (c + j) = List.replicate c d ++ E.take j := by
  rw [List.take_append, List.take_replicate, List.length_replicate, Nat.min_eq_right (Nat.le_add_right c j),
    Nat.add_sub_cancel_left]

theorem sum_take_run_le (c d : Nat) (E : List Nat) {j : Nat} (h : j ≤ c) :
    ((List.replicate c d ++ E).take j).sum = j * d := by
  rw [take_run_le c d E h, List.sum_replicate_nat]

theorem sum_take_run_add (c d : Nat) (E : List Nat) (j : Nat) :
    ((List.replicate c d ++ E).take (c + j)).sum = c * d + (E.take j).sum := by
  rw [take_run_add, List.sum_append, List.sum_replicate_nat]

theorem sum_take_mono (l : List Nat) (p q : Nat) (h : p ≤ q) : (l.take p).sum ≤ (l.take q).sum := by
  obtain ⟨d, rfl⟩ := Nat.exists_eq_add_of_le h
  rw [List.take_add, List.sum_append]
  exact Nat.le_add_right _ _

theorem mem_expandRuns {α} (cs : List Nat) : ∀ (ds : List α) (x : α), x ∈ expandRuns cs ds → x ∈ ds := by
  induction cs with
  | nil => intro ds x h; simp [expandRuns_nil_left] at h
  | cons c cs ih =>
    intro ds x h
    cases ds with
    | nil => simp [expandRuns_nil_right] at h
    | cons d ds =>
      rw [expandRuns_cons, List.mem_append] at h
      rcases h with h | h
      · rw [List.mem_replicate] at h; simp [h.2]
      · simp [ih ds x h]

theorem expandRuns_getElem? {α} (cs : List Nat) : ∀ (ds : List α) (i m : Nat),
    cs.length = ds.length →
    (cs.take i).sum ≤ m → m < (cs.take (i + 1)).sum →
    (expandRuns cs ds)[m]? = ds[i]? := by
  induction cs with
  | nil => intro ds i m _ _ h; simp at h
  | cons c cs ih =>
    intro ds i m hl h1 h2
    cases ds with
    | nil => simp at hl
    | cons d ds =>
      rw [expandRuns_cons]
      cases i with
      | zero =>
        simp only [List.take_succ_cons, List.take_zero, List.sum_cons, List.sum_nil] at h2
        rw [getElem?_run_lt c d _ h2]
        rfl
      | succ i =>
        simp only [List.take_succ_cons, List.sum_cons] at h1 h2
        obtain ⟨r, rfl⟩ := Nat.exists_eq_add_of_le (Nat.le_trans (Nat.le_add_right c _) h1)
        rw [getElem?_run_add, List.getElem?_cons_succ]
        exact ih ds i r (by simpa using hl) (Nat.le_of_add_le_add_left h1) (Nat.lt_of_add_lt_add_left h2)

/-- Cutting a run-length table inside run `i` (shortened to what is left of `last`) takes the first `last` values
    of its expansion. -/
theorem expandRuns_prefix {α} (cs : List Nat) : ∀ (ds : List α) (i last : Nat),
    (cs.take i).sum ≤ last → last ≤ (cs.take (i + 1)).sum →
    expandRuns ((cs.set i (last - (cs.take i).sum)).take (i + 1)) (ds.take (i + 1)) = (expandRuns cs ds).take last := by
  induction cs with
  | nil => intro ds i last _ _; simp [expandRuns_nil_left]
  | cons c cs ih =>
    intro ds i last h1 h2
    cases ds with
    | nil => simp [expandRuns_nil_right]
    | cons d ds =>
      cases i with
      | zero =>
        simp only [List.take_succ_cons, List.take_zero, List.sum_cons, List.sum_nil, Nat.add_zero] at h2
        simp only [List.take_zero, List.sum_nil, Nat.sub_zero, List.set_cons_zero, Nat.zero_add,
          List.take_succ_cons, expandRuns_cons, expandRuns_nil_left, List.append_nil]
        rw [take_run_le c d _ h2]
      | succ i =>
        simp only [List.take_succ_cons, List.sum_cons] at h1 h2
        obtain ⟨l, rfl⟩ := Nat.exists_eq_add_of_le (Nat.le_trans (Nat.le_add_right c _) h1)
        simp only [List.take_succ_cons, List.sum_cons, List.set_cons_succ, expandRuns_cons]
        rw [take_run_add, Nat.add_sub_add_left, ih ds i l
          (Nat.le_of_add_le_add_left h1) (Nat.le_of_add_le_add_left h2)]

end Mp4ff.Stbl
