import Mp4ff.Lemmas.StblChunks
import Mp4ff.Model.CropHdr
/-!
C10, the sample tables: the cut point of a track and the five table-cropping routines of mp4ff-crop, each against the
per-sample expansion of its table; at the end, what a successful `cropHeaders` (Model/CropHdr.lean) did to the
durations.  The interleaving of the kept chunks is in CropLayout.lean.
-/
namespace Mp4ff.Crop
open Mp4ff.Stbl

theorem takeWhile_eq_filter_of_sorted (nums : List Nat) (h : nums.Pairwise (· < ·)) (last : Nat) :
    nums.takeWhile (· ≤ last) = nums.filter (· ≤ last) := by
  induction nums with
  | nil => rfl
  | cons a l ih =>
    rw [List.pairwise_cons] at h
    obtain ⟨h1, h2⟩ := h
    by_cases ha : a ≤ last
    · rw [List.takeWhile_cons_of_pos (by simpa using ha), List.filter_cons_of_pos (by simpa using ha), ih h2]
    · rw [List.takeWhile_cons_of_neg (by simpa using ha), List.filter_cons_of_neg (by simpa using ha)]
      symm
      rw [List.filter_eq_nil_iff]
      intro x hx
      have := h1 x hx
      simp; omega

theorem cropStss_spec (nums : List Nat) (h : nums.Pairwise (· < ·)) (last : Nat) :
    cropStss nums last = nums.filter (· ≤ last) ∧
    (cropStss nums last).Pairwise (· < ·) ∧ ∀ n, n ∈ cropStss nums last ↔ (n ∈ nums ∧ n ≤ last) := by
  have e : cropStss nums last = nums.filter (· ≤ last) := takeWhile_eq_filter_of_sorted nums h last
  refine ⟨e, ?_, ?_⟩
  · rw [e]; exact h.filter _
  · intro n; rw [e, List.mem_filter]; simp

theorem sttsWalk_spec (last : Nat) (cs : List Nat) : ∀ (counted e : Nat),
    counted < last → last ≤ counted + cs.sum → counted + cs.sum < U32 →
    ∃ i, i < cs.length ∧ sttsWalk cs last counted e = (counted + (cs.take i).sum, e + i + 1) ∧
      counted + (cs.take i).sum < last ∧ last ≤ counted + (cs.take (i + 1)).sum := by
  induction cs with
  | nil => intro counted e h1 h2 _; simp at h2; omega
  | cons c cs ih =>
    intro counted e h1 h2 h3
    rw [List.sum_cons] at h2 h3
    unfold sttsWalk
    simp only [h1, if_true]
    rw [Nat.mod_eq_of_lt (by omega)]
    by_cases hb : counted + c ≥ last
    · rw [if_pos hb]
      exact ⟨0, by simp, by simp, by simpa using h1, by simpa using hb⟩
    · rw [if_neg hb]
      obtain ⟨i, g1, g2, g3, g4⟩ := ih (counted + c) (e + 1) (Nat.lt_of_not_le hb) (by rwa [Nat.add_assoc])
        (by rwa [Nat.add_assoc])
      rw [Nat.add_assoc] at g2 g3 g4
      refine ⟨i + 1, Nat.succ_lt_succ g1, ?_, ?_, ?_⟩
      · rw [g2, Nat.add_right_comm e 1 i, List.take_succ_cons, List.sum_cons]
        rfl
      all_goals rwa [List.take_succ_cons, List.sum_cons]

theorem cropStts_spec (b : Stts) (hl : b.count.length = b.delta.length) (hs : b.count.sum < U32)
    (last : Nat) (hlast : last ≤ b.count.sum) :
    ∃ b', cropStts b last = some b' ∧ b'.durations = b.durations.take last ∧ b'.count.length = b'.delta.length := by
  by_cases h0 : last = 0
  · subst h0
    have hw : sttsWalk b.count 0 0 0 = (0, 0) := by
      unfold sttsWalk
      cases b.count with
      | nil => rfl
      | cons c cs => simp
    refine ⟨⟨[], []⟩, ?_, ?_, rfl⟩
    · unfold cropStts
      rw [hw]
      simp
    · simp [Stts.durations, expandRuns]
  · obtain ⟨i, g1, g2, g3, g4⟩ := sttsWalk_spec last b.count 0 0 (Nat.pos_of_ne_zero h0) (by rwa [Nat.zero_add])
      (by rwa [Nat.zero_add])
    simp only [Nat.zero_add] at g2 g3 g4
    refine ⟨⟨(b.count.set i (last - (b.count.take i).sum)).take (i + 1), b.delta.take (i + 1)⟩, ?_, ?_, ?_⟩
    · unfold cropStts
      rw [g2]
      simp only []
      rw [wrap_sub (Nat.le_of_lt g3) (Nat.lt_of_le_of_lt hlast hs), if_pos (Nat.sub_pos_of_lt g3),
        if_neg (not_or.2 ⟨Nat.succ_ne_zero i, Nat.not_lt.2 g1⟩)]
      simp
    · unfold Stts.durations
      simp only []
      exact expandRuns_prefix b.count b.delta i last (Nat.le_of_lt g3) g4
    · simp only [List.length_take, List.length_set, hl]

/-- per-entry sample counts of a ctts box from its cumulative ends -/
def diffs : List Nat → List Nat
  | a :: b :: rest => (b - a) :: diffs (b :: rest)
  | _ => []

/-- one composition offset per sample -/
def Ctts.expand (c : Ctts) : List Int := expandRuns (diffs c.endSampleNr) c.offset

theorem diffs_psums (cs : List Nat) : ∀ s, diffs (s :: psums s cs) = cs := by
  induction cs with
  | nil => intro s; rfl
  | cons c cs ih =>
    intro s
    simp only [psums, diffs, ih]
    congr 1; omega

theorem diffs_set_take (cs : List Nat) : ∀ (s j last : Nat),
    diffs (((s :: psums s cs).set (j + 1) last).take (j + 2)) =
      (cs.set j (last - (s + (cs.take j).sum))).take (j + 1) := by
  induction cs with
  | nil => intro s j last; rfl
  | cons c cs ih =>
    intro s j last
    cases j with
    | zero => simp [psums, diffs]
    | succ j =>
      have hd : ∀ a b rest, diffs (a :: b :: rest) = (b - a) :: diffs (b :: rest) := fun _ _ _ => rfl
      have := ih (s + c) j last
      simp only [psums, List.set_cons_succ, List.take_succ_cons, List.sum_cons] at this ⊢
      rw [hd, this, Nat.add_sub_cancel_left, Nat.add_assoc]

theorem cropCtts_spec (counts : List Nat) (offs : List Int) (hl : counts.length = offs.length)
    (hs : counts.sum < U32) (last : Nat) (hlast : last ≤ counts.sum) :
    ∃ c', cropCtts (Ctts.ofCounts counts offs) last = some c' ∧
      Ctts.expand c' = (expandRuns counts offs).take last := by
  have hO : (Ctts.ofCounts counts offs).offset = offs := rfl
  unfold cropCtts
  rw [ofCounts_endSampleNr counts offs hs, hO]
  by_cases h0 : last = 0
  · -- nothing is kept: the search stops at the leading 0 of the cumulative ends
    subst h0
    have hb : bsearchGE (0 :: psums 0 counts) 0 ((0 :: psums 0 counts).length + 1) 0 (0 :: psums 0 counts).length = 0 := by
      rw [bsearchGE_eq_bsFirst]
      exact bsFirst_eq _ 0 _ _ _ (Nat.le_refl _) (Nat.zero_le _) (by omega) fun i _ _ => by simp
    simp only [hb]
    exact ⟨⟨[0], []⟩, by simp, by simp [Ctts.expand, diffs, expandRuns]⟩
  · obtain ⟨j, j1, j2, j3, hj⟩ := ctts_locate counts last (Nat.pos_of_ne_zero h0) hlast
    simp only [hj]
    rw [if_neg (by simp [psums_length]; omega), if_neg (by omega)]
    refine ⟨_, rfl, ?_⟩
    unfold Ctts.expand
    simp only []
    rw [diffs_set_take counts 0 j last, Nat.zero_add]
    exact expandRuns_prefix counts offs j last (Nat.le_of_lt j2) j3

theorem ctts_expand_ofCounts (counts : List Nat) (offs : List Int) (hl : counts.length = offs.length)
    (hs : counts.sum < U32) : Ctts.expand (Ctts.ofCounts counts offs) = expandRuns counts offs := by
  unfold Ctts.expand
  rw [ofCounts_endSampleNr counts offs hs, diffs_psums]
  rfl

theorem cropStsz_spec (b : Stsz) (h : b.OK) (last : Nat) (hlast : last ≤ b.sampleNumber) :
    ∃ b', cropStsz b last = some b' ∧ b'.sampleNumber = last ∧ ∀ n, 1 ≤ n → n ≤ last → b'.sizeOf n = b.sizeOf n := by
  obtain ⟨ha, hb, _⟩ := h
  unfold cropStsz
  by_cases hu : b.uniform = 0
  · have hlen := ha hu
    rw [if_pos hu, if_neg (by omega)]
    refine ⟨_, rfl, rfl, ?_⟩
    intro n h1 hn
    unfold Stsz.sizeOf
    simp only [hu]
    rw [if_neg (by simp), if_neg (by simp), List.getD_eq_getElem?_getD, List.getD_eq_getElem?_getD,
      List.getElem?_take, if_pos (by omega)]
  · rw [if_neg hu]
    refine ⟨_, rfl, rfl, ?_⟩
    intro n _ _
    rfl

theorem trackEnd_spec (b : Stts) (h : b.OK) (hpos : ∀ d ∈ b.delta, 0 < d) (hc : ∀ c ∈ b.count, 0 < c)
    (hN : b.durations.length + 1 < U32) (ts te : Nat) (hts : 0 < ts) (hts32 : ts < U32) (hte : te < b.durations.sum) :
    ∃ k, trackEnd b ts te ts = some k ∧ k ≤ b.durations.length ∧
      (∀ j, 1 ≤ j → j ≤ k → startTime b.durations j < te) ∧ te ≤ startTime b.durations (k + 1) := by
  obtain ⟨k, g1, g2, g3, g4, g5⟩ := (getSampleNrAtTime_spec b h hpos hc hN te).1 hte
  obtain ⟨k, rfl⟩ := Nat.exists_eq_add_of_le' g2
  refine ⟨k, ?_, Nat.le_of_succ_le_succ g3, fun j hj1 hj2 => g5 j hj1 (Nat.lt_succ_of_le hj2), g4⟩
  unfold trackEnd
  rw [if_neg (Nat.ne_of_gt hts), Nat.mod_eq_of_lt hts32]
  have e : (k + 1 + U32 - 1) % U32 = k := wrap_sub g2 (Nat.lt_of_le_of_lt g3 hN)
  simp only [ne_eq, not_true_eq_false, if_false, g1, Option.bind_eq_bind, Option.bind_some, e]

theorem spcOf_take_of_lt {raw} (h : RawOK raw) {k x : Nat} (hk : k < raw.length → x < fcAt raw k) :
    spcOf (raw.take k) x = spcOf raw x := by
  unfold spcOf; rw [filter_le_take h hk]

theorem spcOf_append_singleton (l : List (Nat × Nat × Nat)) (c n s x : Nat) :
    spcOf (l ++ [(c, n, s)]) x = if c ≤ x then n else spcOf l x := by
  unfold spcOf
  rw [List.filter_append]
  by_cases hcx : c ≤ x
  · rw [if_pos hcx, show List.filter (fun e => decide (e.1 ≤ x)) [(c, n, s)] = [(c, n, s)] by simp [hcx],
      List.getLast?_concat]
    rfl
  · rw [if_neg hcx, show List.filter (fun e => decide (e.1 ≤ x)) [(c, n, s)] = [] by simp [hcx], List.append_nil]

theorem spcOf_take {raw} (h : RawOK raw) {j c x} (hin : InEntry raw j c) (hx : x ≤ c) :
    spcOf (raw.take (j + 1)) x = spcOf raw x :=
  spcOf_take_of_lt h fun hl => Nat.lt_of_le_of_lt hx (hin.hi hl)

theorem spcOf_take_append_lt {raw} (h : RawOK raw) {j c x} (hin : InEntry raw j c) (hx : x < c) (n s : Nat) :
    spcOf (raw.take (j + 1) ++ [(c, n, s)]) x = spcOf raw x := by
  rw [spcOf_append_singleton, if_neg (by omega), spcOf_take h hin (Nat.le_of_lt hx)]

theorem firstSampleOf_congr (raw raw' : List (Nat × Nat × Nat)) : ∀ c,
    (∀ x, 1 ≤ x → x < c → spcOf raw' x = spcOf raw x) → firstSampleOf raw' c = firstSampleOf raw c := by
  intro c
  induction c with
  | zero => intro _; simp [firstSampleOf]
  | succ k ih =>
    intro hx
    by_cases hk : k = 0
    · subst hk; simp [firstSampleOf]
    · rw [firstSampleOf_succ raw (by omega), firstSampleOf_succ raw' (by omega),
        ih (fun x h1 h2 => hx x h1 (by omega)), hx k (by omega) (by omega)]

theorem _root_.Mp4ff.Stbl.RawOK.take {raw} (h : RawOK raw) {k : Nat} (hk : 0 < k) : RawOK (raw.take k) := by
  obtain ⟨hne, hhd, hpw, hpos⟩ := h
  obtain ⟨a, t, rfl⟩ := List.exists_cons_of_ne_nil hne
  obtain ⟨k, rfl⟩ := Nat.exists_eq_add_of_le' hk
  exact ⟨by simp, by simpa using hhd, hpw.sublist (List.take_sublist _ _), fun e he => hpos e (List.mem_of_mem_take he)⟩

theorem _root_.Mp4ff.Stbl.RawOK.concat {l} (h : RawOK l) {c n s : Nat} (hc : ∀ e ∈ l, e.1 < c) (hn : 0 < n) :
    RawOK (l ++ [(c, n, s)]) := by
  obtain ⟨hne, hhd, hpw, hpos⟩ := h
  obtain ⟨a, t, rfl⟩ := List.exists_cons_of_ne_nil hne
  refine ⟨by simp, by simpa using hhd, ?_,
    fun e he => (List.mem_append.1 he).elim (hpos e) fun he' => List.mem_singleton.1 he' ▸ hn⟩
  rw [List.pairwise_append]
  exact ⟨hpw, by simp, fun x hx y hy => List.mem_singleton.1 hy ▸ hc x hx⟩

theorem _root_.Mp4ff.Stbl.RawOK.take_append {raw} (h : RawOK raw) {k c n s : Nat}
    (hc : ∀ i, i < k → fcAt raw i < c) (hn : 0 < n) (h0 : k = 0 → c = 1) :
    RawOK (raw.take k ++ [(c, n, s)]) := by
  rcases Nat.eq_zero_or_pos k with rfl | hk0
  · rw [h0 rfl]
    exact ⟨by simp, rfl, by simp, by simpa using hn⟩
  · refine RawOK.concat (RawOK.take h hk0) (fun e he => ?_) hn
    obtain ⟨i, hi, rfl⟩ := List.mem_take_iff_getElem.1 he
    have hi' : i < raw.length := Nat.lt_of_lt_of_le hi (Nat.min_le_right _ _)
    exact fcAt_eq hi' ▸ hc i (Nat.lt_of_lt_of_le hi (Nat.min_le_left _ _))

/-- The table cut after its first `k` entries and closed by a new entry `(c, r, s)`, where the kept entries start
    before chunk `c` and the dropped ones at or after it: chunks before `c` keep their size, chunk `c` gets `r` samples.
    Both shortened outputs of `cropStsc` have this shape (`k` = index of the entry of `c`, or one more). -/
theorem crop_shape {raw} (h : RawOK raw) {k c r s : Nat} (hlt : ∀ i, i < k → fcAt raw i < c)
    (hge : k < raw.length → c ≤ fcAt raw k) (hr : 0 < r) (h0 : k = 0 → c = 1) (h1 : 1 ≤ c)
    {raw'} (e : raw' = raw.take k ++ [(c, r, s)]) :
    (∀ x, 1 ≤ x → x < c → spcOf raw' x = spcOf raw x) ∧ spcOf raw' c = r ∧
    firstSampleOf raw' (c + 1) = firstSampleOf raw c + r ∧ RawOK raw' := by
  subst e
  have hx : ∀ x, x < c → spcOf (raw.take k ++ [(c, r, s)]) x = spcOf raw x := fun x hx => by
    rw [spcOf_append_singleton, if_neg (by omega), spcOf_take_of_lt h fun hl => Nat.lt_of_lt_of_le hx (hge hl)]
  have hc : spcOf (raw.take k ++ [(c, r, s)]) c = r := by
    rw [spcOf_append_singleton, if_pos (Nat.le_refl c)]
  refine ⟨fun x _ => hx x, hc, ?_, RawOK.take_append h hlt hr h0⟩
  rw [firstSampleOf_succ _ h1, hc, firstSampleOf_congr raw _ c fun x _ hxc => hx x hxc]

theorem cropStsc_spec (raw : List (Nat × Nat × Nat)) (h : RawOK raw) (cmax c last : Nat) (hw : NoWrap raw cmax)
    (h1 : 1 ≤ c) (hc : c ≤ cmax) (hlo : firstSampleOf raw c ≤ last) (hhi : last < firstSampleOf raw (c + 1)) :
    ∃ raw', cropStsc raw last = some raw' ∧
      (∀ j, 1 ≤ j → j < c → spcOf raw' j = spcOf raw j) ∧
      spcOf raw' c = last + 1 - firstSampleOf raw c ∧
      firstSampleOf raw' (c + 1) = last + 1 ∧
      RawOK raw' := by
  obtain ⟨j, hin⟩ := exists_inEntry h hw h1
  have hjl := hin.lt
  have hfc := hin.lo
  have hspc := spcAt_pos h hjl
  have hfs := firstSampleOf_entry h hin.lt hin.lo hin.le_next
  -- of entry `j`, `c - fc` whole chunks and `r` samples of chunk `c` are kept
  have hr : last + 1 - firstSampleOf raw c ≤ spcAt raw j := by
    rw [firstSampleOf_succ raw h1, spcOf_of_inEntry h hin] at hhi; exact Nat.sub_le_iff_le_add'.2 hhi
  have hS : (last + U32 - firstSampleOf raw (fcAt raw j) + 1) % U32 =
      (c - fcAt raw j) * spcAt raw j + (last + 1 - firstSampleOf raw c) := by
    have hF : firstSampleOf raw (fcAt raw j) ≤ last := Nat.le_trans (firstSampleOf_mono raw hfc) hlo
    have hD : (c - fcAt raw j) * spcAt raw j ≤ last + 1 - firstSampleOf raw (fcAt raw j) :=
      Nat.le_sub_of_add_le' (hfs ▸ Nat.le_succ_of_le hlo)
    rw [← Nat.sub_add_comm (Nat.le_trans hF (Nat.le_add_right _ _)), Nat.add_right_comm,
      wrap_sub (Nat.le_succ_of_le hF) (Nat.lt_of_le_of_lt hhi (firstSampleOf_lt_U32 hw (Nat.succ_le_succ hc))),
      hfs, Nat.sub_add_eq, Nat.add_sub_cancel' hD]
  unfold cropStsc
  simp only []
  rw [findEntryForSample_spec h hw hin hlo hhi (Nat.zero_le _), ofRaw_getElem? h hw hjl, List.getElem?_eq_getElem hjl]
  simp only [Option.bind_eq_bind, Option.bind_some]
  rw [if_neg (Nat.ne_of_gt hspc), hS]
  have hr0 : 0 < last + 1 - firstSampleOf raw c := Nat.sub_pos_of_lt (Nat.lt_succ_of_le hlo)
  -- the goal in terms of `r`, the number of samples kept of chunk `c`: `last + 1 = firstSampleOf raw c + r`
  rw [← Nat.add_sub_cancel' (show firstSampleOf raw c ≤ last + 1 from Nat.le_succ_of_le hlo)]
  generalize last + 1 - firstSampleOf raw c = r at hr hr0 ⊢
  rw [Nat.add_sub_cancel_left]
  rcases Nat.eq_or_lt_of_le hr with hfull | hpart
  · -- chunk `c` is kept whole: no new entry
    subst hfull
    rw [← Nat.succ_mul, Nat.mul_div_cancel _ hspc, Nat.sub_self, if_neg (fun h => Nat.lt_irrefl 0 h.1),
      if_neg (Nat.lt_irrefl 0)]
    have hx : ∀ x, x < c + 1 → spcOf (raw.take (j + 1)) x = spcOf raw x :=
      fun x hx => spcOf_take h hin (Nat.le_of_lt_succ hx)
    refine ⟨_, rfl, fun x _ hx' => hx x (Nat.lt_succ_of_lt hx'), ?_, ?_, RawOK.take h (Nat.succ_pos j)⟩
    · rw [hx c (Nat.lt_succ_self c), spcOf_of_inEntry h hin]
    · rw [firstSampleOf_congr raw (raw.take (j + 1)) (c + 1) fun x _ hx' => hx x hx',
        firstSampleOf_succ raw h1, spcOf_of_inEntry h hin]
  · rw [Nat.add_comm _ r, Nat.add_mul_div_right r _ hspc, Nat.div_eq_of_lt hpart, Nat.zero_add, Nat.add_sub_cancel]
    by_cases hq : c - fcAt raw j = 0
    · -- the cut is inside the first chunk of entry `j`: that entry is shortened
      have hcfc : fcAt raw j = c := Nat.le_antisymm hfc (Nat.le_of_sub_eq_zero hq)
      rw [if_pos ⟨hr0, hq⟩, ← fcAt_eq hjl, hcfc]
      exact ⟨_, rfl, crop_shape h (k := j) (fun i hi => hcfc ▸ fcAt_lt h hi hjl)
        (fun _ => Nat.le_of_eq hcfc.symm) hr0 (fun e => by subst e; rw [← hcfc, fcAt_zero h]) h1 rfl⟩
    · have hfc' : fcAt raw j < c := Nat.lt_of_sub_pos (Nat.pos_of_ne_zero hq)
      rw [if_neg (fun h => hq h.2), if_pos hr0, Nat.add_sub_cancel' hfc,
        Nat.mod_eq_of_lt (Nat.lt_of_le_of_lt hc (Nat.lt_of_succ_lt hw.chunks_lt))]
      exact ⟨_, rfl, crop_shape h (k := j + 1)
        (fun i hi => Nat.lt_of_le_of_lt (fcAt_le h (Nat.le_of_lt_succ hi) hjl) hfc')
        hin.le_next hr0 (fun e => absurd e (Nat.succ_ne_zero j)) h1 rfl⟩

theorem cropElst_length (d : Nat) (es : List Nat) : (cropElst d es).length = es.length := by
  simp [cropElst]

/-- no edit-list entry grows, none is shortened to zero -/
theorem cropElst_getElem (d : Nat) (es : List Nat) (j : Nat) (hj : j < es.length) :
    (cropElst d es)[j]'(by simpa [cropElst_length] using hj) ≤ es[j] ∧
    (0 < es[j] → 0 < (cropElst d es)[j]'(by simpa [cropElst_length] using hj)) := by
  simp only [cropElst, List.getElem_map]
  split <;> omega

theorem cropHeaders_some {h h' : MovieHdr} {e ts : Nat} (hc : cropHeaders h e ts = some h') :
    (∀ t ∈ h.tracks, newDuration h.timescale e ts ≤ t.tkhdDur) ∧
    h' = { h with mvhdDur := min (newDuration h.timescale e ts) h.mvhdDur,
                  tracks := h.tracks.map fun t => ⟨newDuration h.timescale e ts,
                    cropElst (t.tkhdDur - newDuration h.timescale e ts) t.elst⟩ } := by
  unfold cropHeaders at hc
  split at hc
  · cases hc
  · simp only at hc
    split at hc
    · rename_i hall
      cases hc
      exact ⟨fun t ht => by simpa using (List.all_eq_true.mp hall) t ht, rfl⟩
    · cases hc

end Mp4ff.Crop
