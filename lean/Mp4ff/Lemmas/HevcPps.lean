import Mp4ff.Model.HevcPps
import Mp4ff.Lemmas.BitSynRoundtrip
import Mp4ff.Lemmas.BitSynTotal
import Mp4ff.Lemmas.Basics
/-!
C15/C16 for the HEVC picture parameter set: totality with a fuel bound linear in the NAL unit length, round trip
through the complete `ParsePPSNALUnit` model.
-/
namespace Mp4ff.HevcPps
open Mp4ff.BitSyn Mp4ff.HevcSps

/-! The depth bound: the octant recursion apart, the whole syntax is unfolded at once. -/

theorem depthL_varFldT (nm : String) (w : Trace → Nat) :
    ∀ (f lo hi : Nat), depthL (varFldT nm w f lo hi) ≤ 2 * f + 3 := by
  have one : ∀ lo, depthL [.cond (fun t => w t = lo) [.fld nm lo]] = 3 := fun _ => rfl
  intro f
  induction f with
  | zero => intro lo hi; rw [varFldT, one]; exact Nat.le_refl _
  | succ f ih =>
    intro lo hi
    unfold varFldT
    split
    · rw [one]; exact Nat.le_add_left _ _
    · have h1 := ih lo ((lo + hi) / 2)
      have h2 := ih ((lo + hi) / 2 + 1) hi
      apply depthL_le_of_add
      simp only [↓depthL_add_le_cond, ↓depthL_add_le_nil]
      omega

theorem depthL_octLeaf (cap : Nat) : depthL (octLeaf cap) ≤ 160 := by
  have := depthL_varFldT "res_coeff_r" resLsBits 64 0 cap
  simp only [octLeaf, varFldCap, List.cons_append, List.nil_append]
  apply depthL_le_of_add
  simp only [↓depthL_add_le_leaf, ↓depthL_add_le_cond, ↓depthL_add_le_rep, ↓depthL_add_le_nil]
  omega

theorem depthL_octSplit (cap d : Nat) (child : List Syn) (k : Nat) (hc : depthL child ≤ k) (hk : 160 ≤ k) :
    depthL (octSplit cap d child) ≤ k + 12 := by
  have := depthL_octLeaf cap
  unfold octSplit eight
  apply depthL_le_of_add
  simp only [↓depthL_add_le_leaf, ↓depthL_add_le_cond, ↓depthL_add_le_nil]
  omega

theorem depthL_octNode0 (cap : Nat) : depthL (octNode0 cap) ≤ 196 :=
  depthL_octSplit cap 0 _ 184 (depthL_octSplit cap 1 _ 172 (depthL_octSplit cap 2 _ 160 (depthL_octLeaf cap)
    (Nat.le_refl _)) (by omega)) (by omega)

theorem depthL_pps (spsIds : List Nat) (cap : Nat) : depthL (pps spsIds cap) ≤ 5 * cap + 800 := by
  have := depthL_octNode0 cap
  simp only [pps, ppsHead, HevcPps.rangeExt, multilayerExt, colourMappingTable, ext3d, deltaDlt, sccExt,
    List.cons_append, List.nil_append]
  apply depthL_le_of_add
  simp only [↓depthL_add_le_varFld_append, ↓depthL_add_le_leaf, ↓depthL_add_le_cond, ↓depthL_add_le_rep,
    ↓depthL_add_le_nil, depthL_varFld, depthL_scalingListData, Nat.reduceAdd, Nat.reduceLeDiff,
    and_self, and_true, true_and]
  omega

theorem pps_total (spsIds : List Nat) (nalu : Bytes) (f : Nat) (hf : 5 * capOf nalu + 800 ≤ f) :
    parsePps f spsIds nalu ≠ .fuel := by
  obtain ⟨t, e, hp, _⟩ := parse_total_depth f (pps spsIds (capOf nalu)) [] { rest := nalu }
    (by have := depthL_pps spsIds (capOf nalu); omega)
  unfold parsePps
  simp only [hp]
  -- every branch behind the syntax is `.err` or `.ok _ _`
  intro h
  cases (ite_ne_left (ite_ne_left h nofun).2 nofun).2

theorem pps_total_driver (spsIds : List Nat) (nalu : Bytes) : parsePps (fuel nalu) spsIds nalu ≠ .fuel :=
  pps_total spsIds nalu (fuel nalu) (by simp only [capOf, fuel]; omega)

theorem pps_roundtrip (f : Nat) (spsIds : List Nat) (tr : Trace) (nalu : Bytes)
    (h : TraceOK f (pps spsIds (capOf nalu)) tr)
    (hs : serialize f (pps spsIds (capOf nalu)) tr = some nalu) : parsePps f spsIds nalu = .ok tr [] := by
  obtain ⟨e, P, m, he⟩ := parse_serialized h hs
  obtain ⟨ht1, ht2⟩ := Sei.readTrailing_spec e P m he.inv he.abs
  unfold parsePps
  simp only [he.parsed, h.2, he.inv.err, extFlags_at_trailing e P m he.inv he.abs, Bool.false_eq_true, or_self, if_false,
    ite_self, ht1, ht2, ne_eq, not_true_eq_false]

end Mp4ff.HevcPps
