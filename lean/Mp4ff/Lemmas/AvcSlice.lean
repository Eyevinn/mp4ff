import Mp4ff.Model.AvcSlice
import Mp4ff.Lemmas.BitSynRoundtrip
import Mp4ff.Lemmas.BitSynTotal
/-!
C15/C16 for the AVC slice header: totality, round trip incl. the reported header size.
-/
namespace Mp4ff.AvcSlice
open Mp4ff.BitSyn Mp4ff.Bits Mp4ff.HevcSps

theorem depthL_slice (sm : List SpsInfo) (pm : List PpsInfo) (cap : Nat) :
    depthL (slice sm pm cap) ≤ 3 * cap + 200 := by
  simp only [slice, modLoop, mmcoLoop, predWeightList, Bool.false_eq_true, if_false, if_true]
  apply depthL_le_of_add
  simp only [↓depthL_add_le_leaf, ↓depthL_add_le_cond, ↓depthL_add_le_rep, ↓depthL_add_le_nil, depthL_varFld,
    Nat.reduceAdd, Nat.reduceLeDiff, and_self, and_true, true_and]
  omega

theorem slice_total (sm : List SpsInfo) (pm : List PpsInfo) (nalu : Bytes) (f : Nat)
    (hf : 3 * capOf nalu + 200 ≤ f) : parseSlice f sm pm nalu ≠ .fuel := by
  obtain ⟨t, e, hp, _⟩ := parse_total_depth f (slice sm pm (capOf nalu)) [] { rest := nalu }
    (by have := depthL_slice sm pm (capOf nalu); omega)
  unfold parseSlice
  simp only [hp]
  cases stopped t <;> cases e.err <;> simp

theorem slice_total_driver (sm : List SpsInfo) (pm : List PpsInfo) (nalu : Bytes) :
    parseSlice (fuel nalu) sm pm nalu ≠ .fuel :=
  slice_total sm pm nalu (fuel nalu) (by simp only [capOf, fuel]; omega)

theorem slice_roundtrip_bits (f : Nat) (sm : List SpsInfo) (pm : List PpsInfo) (cap : Nat) (tr : Trace)
    (os : List Op) (e : ER) (P : Bytes) (tail : List Bool)
    (hops : ops f (slice sm pm cap) [] tr = some (os, tr, [])) (hst : stopped tr = false) (hok : ∀ op ∈ os, op.OK)
    (he : e.Inv P) (habs : e.abs P = opsBits os ++ tail) :
    ∃ e' P', parse f (slice sm pm cap) [] e = some (tr, e') ∧ e'.Inv P' ∧ e'.abs P' = tail ∧ e'.err = false ∧
      e'.nread + e'.rest.length = e.nread + e.rest.length := by
  obtain ⟨e', P', h1, h2, h3, h4⟩ := parse_ops f (slice sm pm cap) [] tr os tr [] e P tail hops hst hok he habs
  exact ⟨e', P', h1, h2, h3, h2.err, h4⟩

theorem slice_roundtrip (f : Nat) (sm : List SpsInfo) (pm : List PpsInfo) (tr : Trace) (nalu : Bytes)
    (h : TraceOK f (slice sm pm (capOf nalu)) tr)
    (hs : serialize f (slice sm pm (capOf nalu)) tr = some nalu) :
    ∃ size, parseSlice f sm pm nalu = .ok tr size ∧ size ≤ nalu.length := by
  obtain ⟨e, P, m, he⟩ := parse_serialized h hs
  refine ⟨e.nread, ?_, Nat.le.intro he.count⟩
  unfold parseSlice
  simp only [he.parsed, h.2, he.inv.err, Bool.false_eq_true, if_false, ER.nrBytesRead]

end Mp4ff.AvcSlice
