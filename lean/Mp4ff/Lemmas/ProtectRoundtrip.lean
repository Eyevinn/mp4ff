import Mp4ff.Lemmas.ProtectStrip
/-!
decrypt ∘ write ∘ encrypt = write.  A traf related by `EncTraf` comes out of writing and decoding (`decodeOne`) as its clear
children followed by saiz, saio and a parsed senc (`decode_encrypted_traf`), and decryption takes these away again
(`decryptTraf_appended`, given that the decrypt info knows the track: `Covers`): `roundtrip_traf`.  Induction on `EncRel`
carries this over the children of the moof (`roundtrip_children`).  At the fragment level (`roundtrip`) what is left are the
data offsets of the truns and the mdat position, which move by the bytes added and removed again.
-/
namespace Mp4ff.Protect

/-- what `DecodeFile` does to the children of one traf -/
def decodeOne (ms : Nat) (l : List TrafChild) : Option (List TrafChild) :=
  match containsSenc l with
  | some false => if parseReadSencOk l ms then some (markParsed l) else none
  | _ => some l

theorem decodeTrafs_cons_traf (ms : Nat) (t : Traf) (rest : List MoofChild) :
    decodeTrafs ms (.traf t :: rest) =
      match decodeOne ms t.children with
      | none => none
      | some ch => (decodeTrafs ms rest).map (.traf { t with children := ch } :: ·) := by
  cases t
  rw [decodeTrafs, decodeOne]
  repeat' split
  all_goals simp_all

/-- the children of an encrypted traf after writing and decoding: the clear children, then saiz, saio, and the senc
    (same sizes, senc parsed); in particular the decoder's saio check passes -/
theorem decode_encrypted_traf (t : Traf) (a : Saiz) (s : Senc) (ms off : Nat)
    (hclear : clearT t.children = true) (hs : s.readSize = 0) :
    let o : Int := ((off + 8 + sizes t.children + a.size + 20 + 16 : Nat) : Int)
    ∃ a' s', a'.size = a.size ∧ s'.size = s.size ∧ s'.parsed = true ∧
      decodeOne ms (placeTrafChildren (addProt a o s t).children (ms + off + 8)) =
        some (t.children ++ [.saiz a', .saio { offsets := [o] }, .senc s']) := by
  intro o
  have hge := Senc.calcSize_ge s
  have hcalc : s.size = s.calcSize := by simp [Senc.size, hs]
  let a' : Saiz := { a with info := if a.defaultSize = 0 then a.info else [] }
  let s1 : Senc := { s with startPos := ms + off + 8 + sizes t.children + a.size + 20, readSize := s.size,
                            parsed := decide (s.sampleCount = 0 ∨ s.size = 16) }
  have hs1 : s1.size = s.size := by
    show (if s.size > 0 then s.size else _) = s.size
    rw [if_pos (by omega)]
  have hplaced : placeTrafChildren (addProt a o s t).children (ms + off + 8)
      = t.children ++ [.saiz a', .saio { offsets := [o] }, .senc s1] := by
    simp only [addProt]
    rw [placeTrafChildren_append, placeTrafChildren_clear _ _ hclear]
    simp [placeTrafChildren, TrafChild.size, saio_one_size, a', s1]
  have hcs : containsSenc (t.children ++ [.saiz a', .saio { offsets := [o] }, .senc s1]) = some s1.parsed := by
    rw [containsSenc_clear_append _ _ hclear]; rfl
  rw [hplaced, decodeOne, hcs]
  cases hp : s1.parsed with
  | true => exact ⟨a', s1, rfl, hs1, hp, rfl⟩
  | false =>
    -- read but not parsed: the decoder parses it at once, after the saio check
    have hok : parseReadSencOk (t.children ++ [.saiz a', .saio { offsets := [o] }, .senc s1]) ms = true := by
      simp only [parseReadSencOk, saioOk, lastSenc_append, lastSaio_append, lastSenc, lastSaio, Option.some_or, hp]
      simp [s1, o]
      omega
    refine ⟨a', { s1 with parsed := true }, rfl, ?_, rfl, ?_⟩
    · rw [← hs1]; simp [Senc.size, Senc.calcSize]
    · simp [hok, markParsed_append_senc]

theorem decryptTraf_appended {di : DecInfo} {tid iv : Nat} {sn : String} (ms : Nat) (ch : List TrafChild)
    (a : Saiz) (o : Saio) (s : Senc) (hclear : clearT ch = true) (hp : s.parsed = true)
    (hft : findTrack di tid = some (sn, iv)) (hsn : sn = "cenc" ∨ sn = "cbcs") :
    decryptTraf di ms ⟨tid, ch ++ [.saiz a, .saio o, .senc s]⟩ = some (⟨tid, ch⟩, a.size + o.size + s.size) := by
  have hcs : containsSenc (ch ++ [TrafChild.saiz a, .saio o, .senc s]) = some true := by
    rw [containsSenc_clear_append _ _ hclear]; simp [containsSenc, hp]
  have hne : ¬ (sn ≠ "cenc" ∧ sn ≠ "cbcs") := by rcases hsn with h | h <;> simp [h]
  simp only [decryptTraf, hft, hcs, if_neg hne]
  rw [removeProt_append, removedBytes_append, removeProt_clear _ hclear, removedBytes_clear _ hclear,
    removeProt_saiz_saio_senc, removedBytes_saiz_saio_senc]
  simp

/-- the decrypt info knows every protected track (scheme cenc or cbcs) and knows the other tracks as clear or not at all -/
def CoversAt (di : DecInfo) (ps : Nat → Option (Scheme × List Nat)) (id : Nat) : Prop :=
  match ps id with
  | some _ => ∃ s iv, findTrack di id = some (s, iv) ∧ (s = "cenc" ∨ s = "cbcs")
  | none => findTrack di id = none

/-- ... for every traf of the moof -/
def Covers (di : DecInfo) (ps : Nat → Option (Scheme × List Nat)) (l : List MoofChild) : Prop :=
  ∀ t ∈ trafsOf l, CoversAt di ps t.trackID

theorem traf_eta (t : Traf) : ({ t with children := t.children } : Traf) = t := by cases t; rfl

/-- the traf lies `off` bytes into the moof, the moof at `ms`; `n` = bytes removed = bytes added -/
theorem roundtrip_traf {ps : Nat → Option (Scheme × List Nat)} {di : DecInfo} (ms : Nat) {off : Nat} {t t' : Traf}
    (hclear : clearT t.children = true) (hcov : CoversAt di ps t.trackID) (h : EncTraf ps off t t') :
    ∃ ch n, decodeOne ms (placeTrafChildren t'.children (ms + off + 8)) = some ch ∧
      decryptTraf di ms { t' with children := ch } = some (t, n) ∧ n + t.size = t'.size := by
  unfold EncTraf at h
  unfold CoversAt at hcov
  cases hps : ps t.trackID with
  | none =>
    simp only [hps] at h hcov
    subst h
    refine ⟨t'.children, 0, ?_, ?_, Nat.zero_add _⟩
    · rw [placeTrafChildren_clear _ _ hclear, decodeOne, containsSenc_clear _ hclear]
    · simp only [decryptTraf, hcov]
  | some p =>
    simp only [hps] at h hcov
    obtain ⟨sn, iv, hft, hsn⟩ := hcov
    obtain ⟨r, a, s, -, -, haux, rfl⟩ := h
    obtain ⟨a', s', ha', hs', hp', hdec⟩ := decode_encrypted_traf t a s ms off hclear (auxBoxes_spec haux).sencReadSize
    refine ⟨_, a.size + 20 + s.size, hdec, ?_, ?_⟩
    · show decryptTraf di ms ⟨t.trackID, _⟩ = _
      rw [decryptTraf_appended ms t.children a' _ s' hclear hp' hft hsn, ha', hs', saio_one_size]
    · simp [addProt, Traf.size, TrafChild.size, saio_one_size]; omega

theorem roundtrip_children {ps : Nat → Option (Scheme × List Nat)} {di : DecInfo} (ms : Nat)
    {l l' : List MoofChild} {off : Nat} (h : EncRel ps off l l') (hclear : clearM l = true) (hcov : Covers di ps l) :
    ∃ L n, decodeTrafs ms (placeChildren l' (ms + off)) = some L ∧
           decryptTrafs di ms L = some (l, n) ∧ n + msizes l = msizes l' := by
  induction h with
  | nil => exact ⟨[], 0, rfl, rfl, rfl⟩
  | @other off k sz rest r' _ ih =>
    obtain ⟨L, n, hL, hD, hn⟩ := ih hclear hcov
    rw [← Nat.add_assoc] at hL
    refine ⟨.other k sz :: L, n, ?_, ?_, ?_⟩
    · simp only [placeChildren, decodeTrafs, MoofChild.size, hL]; rfl
    · simp only [decryptTrafs, hD]
    · simp only [msizes_cons]; omega
  | pssh => simp [clearM] at hclear
  | @traf off t t' rest r' ht _ ih =>
    simp only [clearM, Bool.and_eq_true] at hclear
    obtain ⟨ch, k, hdec, hdecr, hk⟩ := roundtrip_traf ms hclear.1 (hcov t (by simp [trafsOf])) ht
    obtain ⟨L, n, hL, hD, hn⟩ := ih hclear.2 fun u hu => hcov u (by simp [trafsOf, hu])
    rw [← Nat.add_assoc] at hL
    refine ⟨.traf { t' with children := ch } :: L, k + n, ?_, ?_, ?_⟩
    · simp only [placeChildren, decodeTrafs_cons_traf, hdec, hL]; rfl
    · simp only [decryptTrafs, hdecr, hD]
    · simp only [msizes_cons, MoofChild.size]; omega

/-- a clear fragment after writing and decoding: only the truns change (data offsets set, write order gone), the mdat
    follows the moof -/
def clearLayout (f : Frag) : Frag :=
  { f with children := mapTruns (trunLayout f.moofSize f.mdatHdr f.allTruns) f.children
           mdatStart := f.moofStart + f.moofSize }

theorem layout_clear (f : Frag) (h : f.Clear) : layout f = some (clearLayout f) := by
  unfold layout clearLayout
  rw [placeChildren_clear _ _ h, decodeTrafs_clear _ _ h]
  rfl

/-- a fragment that is already laid out as written (decoded from a file) is a fixed point of `clearLayout` -/
def AsWritten (f : Frag) : Prop := clearLayout f = f

theorem shiftTrun_trunLayout {ts : List Trun} (hman : offsetsUnmanaged ts = false) (n size hdr : Nat) (r : Trun) :
    shiftTrun n (trunLayout (size + n) hdr ts r) = trunLayout size hdr ts r := by
  simp only [shiftTrun, trunLayout, hman]
  simp
  omega

/-- **decrypt ∘ write ∘ encrypt = write** for every clear fragment (any number of trafs, samples, sub-samples, other
    boxes) -/
theorem roundtrip (ps : Nat → Option (Scheme × List Nat)) (di : DecInfo) (f g : Frag)
    (hclear : f.Clear) (hcov : Covers di ps f.children) (henc : encryptAll ps f = some g)
    (hman : offsetsUnmanaged f.allTruns = false) (hfit : f.moofStart + g.moofSize < 2 ^ 64) :
    ∃ gl, layout g = some gl ∧ decryptFrag di gl = some (clearLayout f) := by
  obtain ⟨l', henc', rfl⟩ := encryptAll_some henc
  obtain ⟨L, n, hL, hD, hn⟩ := roundtrip_children f.moofStart (encChildren_rel henc') hclear hcov
  -- the moof has gained the `n` bytes that decryption removes again
  have hsz : 8 + msizes l' = f.moofSize + n := by simp only [Frag.moofSize]; omega
  rw [Frag.moofSize, hsz] at hfit
  refine ⟨{ moofStart := f.moofStart
            children := mapTruns (trunLayout (f.moofSize + n) f.mdatHdr f.allTruns) L
            mdatStart := f.moofStart + (f.moofSize + n)
            mdatHdr := f.mdatHdr }, ?_, ?_⟩
  · simp only [layout, hL, Option.map_some, Frag.moofSize, hsz, Frag.allTruns, allTruns_encChildren henc']
  · obtain ⟨hfilt, hps⟩ := filter_pssh_clear _
      ((clearM_mapTruns (trunLayout (f.moofSize + n) f.mdatHdr f.allTruns) f.children).trans hclear)
    simp only [decryptFrag, decryptTrafs_mapTruns, hD, Option.map_some, hfilt, hps, mapTruns_comp, msizes_nil,
      Nat.add_zero, shiftTrun_trunLayout hman, clearLayout]
    rw [if_pos (by omega), sub_mod_of_le (by omega) hfit, ← Nat.add_assoc, Nat.add_sub_cancel]

end Mp4ff.Protect
