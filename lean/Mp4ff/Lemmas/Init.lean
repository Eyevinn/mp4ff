import Mp4ff.Model.Init
/-!
Init segments built through the API. What `MoovBox.AddChild` does with a trak on a child list `pre ++ traks ++ post`
(`pre` not empty, no trak in `pre` or `post`) is computed once, in `moovAddChild_trak_shape`. The two results about the
child order rest on it: every added child keeps `Adjacent`, and `Inv`, the invariant of `AddEmptyTrack` histories of
which `build_ids` and `build_children` are conjuncts, keeps the children `mvhd, mvex, traks`. Well-formedness of the
encoded tree reduces by `leaf_wf` / `node_wf` to box types having four bytes.
-/
namespace Mp4ff.Init

section Helpers
open Mp4ff.BoxTree

theorem toList_loop_length (bs : ByteArray) (i : Nat) (r : List UInt8) :
    (ByteArray.toList.loop bs i r).length = r.length + (bs.size - i) := by
  fun_induction ByteArray.toList.loop bs i r with
  | case1 i r h ih => rw [ih]; simp; omega
  | case2 i r h => simp; omega

theorem str_length (s : String) : (str s).length = s.toUTF8.size := by
  simp [str, ByteArray.toList, toList_loop_length]

theorem lastTrakIdxFrom_nontrak (a : List Child) (h : ∀ c ∈ a, c.isTrak = false) (i acc : Nat) :
    lastTrakIdxFrom a i acc = acc := by
  induction a generalizing i with
  | nil => rfl
  | cons x xs ih =>
    obtain ⟨hx, hxs⟩ := List.forall_mem_cons.mp h
    rw [lastTrakIdxFrom, hx]
    exact ih hxs _

theorem lastTrakIdxFrom_append (a b : List Child) (i acc : Nat) :
    lastTrakIdxFrom (a ++ b) i acc = lastTrakIdxFrom b (i + a.length) (lastTrakIdxFrom a i acc) := by
  induction a generalizing i acc with
  | nil => rfl
  | cons x xs ih => rw [List.cons_append, lastTrakIdxFrom, ih, List.length_cons, Nat.add_right_comm, Nat.add_assoc]; rfl

theorem lastTrakIdxFrom_last (a : List Child) (t : Trak) (post : List Child) (hpost : ∀ c ∈ post, c.isTrak = false) (i acc : Nat) :
    lastTrakIdxFrom (a ++ .trak t :: post) i acc = i + a.length := by
  rw [lastTrakIdxFrom_append, lastTrakIdxFrom, lastTrakIdxFrom_nontrak post hpost]; rfl

theorem lastTrakIdx_shape (pre : List Child) (ts : List Trak) (post : List Child)
    (hpre : ∀ c ∈ pre, c.isTrak = false) (hpost : ∀ c ∈ post, c.isTrak = false) :
    lastTrakIdx (pre ++ ts.map Child.trak ++ post) =
      if ts = [] then 0 else pre.length + ts.length - 1 := by
  cases h : ts.getLast? with
  | none =>
    obtain rfl := List.getLast?_eq_none_iff.mp h
    exact lastTrakIdxFrom_nontrak _ (fun c hc => (List.mem_append.mp hc).elim (by simpa using hpre c) (hpost c)) 0 0
  | some t =>
    obtain ⟨ts', rfl⟩ := List.getLast?_eq_some_iff.mp h
    have e : pre ++ (ts' ++ [t]).map Child.trak ++ post = (pre ++ ts'.map Child.trak) ++ .trak t :: post := by simp
    rw [lastTrakIdx, e, lastTrakIdxFrom_last _ _ post hpost]
    simp

theorem childTraks_append (a b : List Child) : childTraks (a ++ b) = childTraks a ++ childTraks b := by
  simp [childTraks, List.filterMap_append]

theorem childTraks_map (ts : List Trak) : childTraks (ts.map Child.trak) = ts := by
  simp [childTraks, List.filterMap_map, Function.comp_def]

theorem childTraks_nontrak (a : List Child) (h : ∀ c ∈ a, c.isTrak = false) : childTraks a = [] := by
  refine List.filterMap_eq_nil_iff.mpr fun c hc => ?_
  cases c with
  | trak t => exact Bool.noConfusion (h _ hc)
  | _ => rfl

theorem childTraks_shape (pre : List Child) (ts : List Trak) (post : List Child)
    (hpre : ∀ c ∈ pre, c.isTrak = false) (hpost : ∀ c ∈ post, c.isTrak = false) :
    childTraks (pre ++ ts.map Child.trak ++ post) = ts := by
  rw [childTraks_append, childTraks_append, childTraks_map, childTraks_nontrak pre hpre,
    childTraks_nontrak post hpost]; simp

theorem moovAddChild_nontrak (cs : List Child) (c : Child) (h : c.isTrak = false) :
    moovAddChild cs c = cs ++ [c] := by
  simp [moovAddChild, h]

theorem moovAddChild_trak_shape (pre : List Child) (ts : List Trak) (post : List Child) (t : Trak)
    (hne : pre ≠ [])
    (hpre : ∀ c ∈ pre, c.isTrak = false) (hpost : ∀ c ∈ post, c.isTrak = false) :
    moovAddChild (pre ++ ts.map Child.trak ++ post) (.trak t) =
      if ts = [] then pre ++ post ++ [.trak t] else pre ++ (ts ++ [t]).map Child.trak ++ post := by
  have hpl : 0 < pre.length := List.length_pos_iff.mpr hne
  simp only [moovAddChild, Child.isTrak, if_true]
  rw [lastTrakIdx_shape pre ts post hpre hpost]
  by_cases hts : ts = []
  · simp [hts]
  · have htl : 0 < ts.length := List.length_pos_iff.mpr hts
    obtain ⟨h0, h3⟩ : pre.length + ts.length - 1 ≠ 0 ∧
        (pre ++ List.map Child.trak ts).length = pre.length + ts.length - 1 + 1 := by
      rw [List.length_append, List.length_map]; omega
    simp only [hts, if_false]
    by_cases hp : post = []
    · simp [hp, ← h3]
    · have hpo : 0 < post.length := List.length_pos_iff.mpr hp
      rw [if_pos ⟨h0, by
          rw [← h3, List.length_append (bs := post)]; exact Nat.ne_of_lt (Nat.lt_add_of_pos_right hpo)⟩,
        List.take_left' h3, List.drop_left' h3]
      simp

/-- `st` is the builder state after `AddEmptyTrack` for each of the specs `s0`: track and trex ids count from 1, `next`
    is `CreateMvhd`'s 2 until the first track sets it, and the traks stay behind mvhd and mvex in the order they came -/
structure Inv (st : St) (s0 : List TrackSpec) : Prop where
  ids : st.traks.map (·.id) = List.range' 1 s0.length
  trexs : st.trexs = List.range' 1 s0.length
  specs : st.traks.map (·.spec) = s0
  next : st.next = if s0 = [] then 2 else s0.length + 1
  children : st.children = [Child.mvhd, Child.mvex] ++ st.traks.map Child.trak

theorem Inv.of_empty : Inv empty [] := by
  constructor <;> simp [empty]

theorem Inv.step (st : St) (s0 : List TrackSpec) (sp : TrackSpec) (h : Inv st s0) :
    Inv (addEmptyTrack st sp) (s0 ++ [sp]) := by
  have hlen : st.traks.length = s0.length := by simpa using congrArg List.length h.specs
  refine { ids := ?_, trexs := ?_, specs := ?_, next := ?_, children := ?_ }
  · simp [addEmptyTrack, h.ids, hlen, List.range'_concat, Nat.add_comm]
  · simp [addEmptyTrack, h.trexs, hlen, List.range'_concat, Nat.add_comm]
  · simp [addEmptyTrack, h.specs]
  · simp [addEmptyTrack, hlen]
  · simp only [addEmptyTrack, h.children]
    have := moovAddChild_trak_shape [Child.mvhd, Child.mvex] st.traks [] ⟨st.traks.length + 1, sp⟩
      (by simp) (by simp [Child.isTrak]) (by simp)
    rw [List.append_nil] at this
    rw [this]; split <;> simp [*]

theorem Inv.foldl (sps : List TrackSpec) (st : St) (s0 : List TrackSpec) (h : Inv st s0) :
    Inv (sps.foldl addEmptyTrack st) (s0 ++ sps) := by
  induction sps generalizing st s0 with
  | nil => simpa using h
  | cons sp sps ih => simpa using ih _ _ (Inv.step st s0 sp h)

theorem Inv.of_build (specs : List TrackSpec) : Inv (build specs) specs := by
  simpa [build] using Inv.foldl specs empty [] Inv.of_empty

theorem WFs.map {α : Type} (f : α → Tree) (l : List α) (h : ∀ x ∈ l, (f x).WF) : WFs (l.map f) := by
  induction l with
  | nil => simp [WFs]
  | cons x xs ih =>
    obtain ⟨hx, hxs⟩ := List.forall_mem_cons.mp h
    exact ⟨hx, ih hxs⟩

/-- a box built by `leaf`/`node` is well-formed iff its type has four bytes (and its children are well-formed); with
    `WFs` these two reduce well-formedness of a literal tree to facts about literal strings, which `decide` settles -/
theorem leaf_wf (ty : String) (p : Bytes) : (leaf ty p).WF ↔ ty.toUTF8.size = 4 := by
  simp only [leaf, Tree.WF, str_length]

theorem node_wf (ty : String) (cs : List Tree) : (node ty cs).WF ↔ ty.toUTF8.size = 4 ∧ WFs cs := by
  simp only [node, Tree.WF, str_length]

theorem mediaHeaderOf_size (media : String) : (mediaHeaderOf media).toUTF8.size = 4 := by
  unfold mediaHeaderOf
  repeat' split
  all_goals decide

theorem mediaHeader_wf (media : String) : (mediaHeader media).WF := by
  unfold mediaHeader
  simp only
  repeat' split
  all_goals exact (leaf_wf _ _).mpr (mediaHeaderOf_size media)

theorem trak_wf (t : Trak) : (trak t).WF := by
  unfold trak
  simp only []
  split <;>
    simp only [node_wf, leaf_wf, WFs, List.cons_append, List.nil_append, mediaHeader_wf, tkhd, stsd, and_true, true_and] <;>
    decide

end Helpers

/-- the traks form one contiguous block that does not start at index 0 -/
def Adjacent (cs : List Child) : Prop :=
  ∃ (pre : List Child) (ts : List Trak) (post : List Child), cs = pre ++ ts.map Child.trak ++ post ∧ pre ≠ [] ∧
    (∀ c ∈ pre, c.isTrak = false) ∧ (∀ c ∈ post, c.isTrak = false)

theorem moovAddChild_adjacent (cs : List Child) (c : Child) (h : Adjacent cs) :
    Adjacent (moovAddChild cs c) ∧ childTraks (moovAddChild cs c) = childTraks cs ++ childTraks [c] := by
  obtain ⟨pre, ts, post, rfl, hne, hpre, hpost⟩ := h
  cases hc : c.isTrak with
  | false =>
    rw [moovAddChild_nontrak _ _ hc]
    exact ⟨⟨pre, ts, post ++ [c], by simp, hne, hpre, List.forall_mem_append.mpr ⟨hpost, by simpa using hc⟩⟩,
      childTraks_append _ _⟩
  | true =>
    obtain ⟨t, rfl⟩ : ∃ t, c = .trak t := by cases c <;> first | exact ⟨_, rfl⟩ | cases hc
    rw [moovAddChild_trak_shape pre ts post t hne hpre hpost, childTraks_shape pre ts post hpre hpost,
      show childTraks [Child.trak t] = [t] from rfl]
    split
    · rename_i hts
      subst hts
      have hpp := List.forall_mem_append.mpr ⟨hpre, hpost⟩
      exact ⟨⟨pre ++ post, [t], [], by simp, by simp [hne], hpp, by simp⟩,
        by simpa using childTraks_shape _ [t] [] hpp (by simp)⟩
    · exact ⟨⟨pre, ts ++ [t], post, rfl, hne, hpre, hpost⟩, childTraks_shape pre _ post hpre hpost⟩

theorem moovAddChildren_adjacent (cs : List Child) (add : List Child) (h : Adjacent cs) :
    Adjacent (add.foldl moovAddChild cs) ∧
    childTraks (add.foldl moovAddChild cs) = childTraks cs ++ childTraks add := by
  induction add generalizing cs with
  | nil => simp [h, childTraks]
  | cons a as ih =>
    have ⟨h1, h2⟩ := moovAddChild_adjacent cs a h
    have ⟨h3, h4⟩ := ih (moovAddChild cs a) h1
    refine ⟨h3, ?_⟩
    rw [List.foldl_cons, h4, h2, List.append_assoc, ← childTraks_append]
    rfl

theorem build_ids (specs : List TrackSpec) :
    (build specs).traks.map (·.id) = List.range' 1 specs.length ∧
    (build specs).trexs = List.range' 1 specs.length ∧
    (build specs).traks.map (·.spec) = specs ∧
    (build specs).next = (if specs = [] then 2 else specs.length + 1) ∧
    (∀ t ∈ (build specs).traks, 1 ≤ t.id ∧ t.id < (build specs).next) ∧
    ((build specs).traks.map (·.id)).Nodup := by
  have h := Inv.of_build specs
  refine ⟨h.ids, h.trexs, h.specs, h.next, ?_, ?_⟩
  · intro t ht
    have hm : t.id ∈ (build specs).traks.map (·.id) := List.mem_map.mpr ⟨t, ht, rfl⟩
    rw [h.ids, List.mem_range'_1] at hm
    have : specs ≠ [] := fun h => by simp [h] at hm; omega
    rw [h.next, if_neg this]; omega
  · rw [h.ids]; exact List.nodup_range' 1

theorem build_children (specs : List TrackSpec) :
    (build specs).children = [Child.mvhd, Child.mvex] ++ (build specs).traks.map Child.trak :=
  (Inv.of_build specs).children

theorem lang_roundtrip (a b c : Nat) (ha : 97 ≤ a ∧ a ≤ 122) (hb : 97 ≤ b ∧ b ≤ 122) (hc : 97 ≤ c ∧ c ≤ 122) :
    unpackLang (packLang [a, b, c]) = [a, b, c] ∧ packLang [a, b, c] < 2 ^ 15 := by
  simp only [unpackLang, packLang, List.cons.injEq, and_true]
  omega

theorem init_tree_wf (st : St) (h : ∀ c ∈ st.children, ∀ ty, c = Child.other ty → (str ty).length = 4) :
    ftyp.WF ∧ (node "moov" (st.children.map (childTree st))).WF := by
  refine ⟨(leaf_wf _ _).mpr (by decide), (node_wf _ _).mpr ⟨by decide, WFs.map _ _ fun c hc => ?_⟩⟩
  cases c with
  | mvhd => exact (leaf_wf _ _).mpr (by decide)
  | mvex => exact (node_wf _ _).mpr ⟨by decide, WFs.map _ _ fun _ _ => (leaf_wf _ _).mpr (by decide)⟩
  | trak t => exact trak_wf t
  | other ty => exact h _ hc ty rfl

end Mp4ff.Init
