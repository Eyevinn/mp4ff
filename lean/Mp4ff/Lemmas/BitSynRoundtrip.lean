import Mp4ff.Model.HevcSps
import Mp4ff.Lemmas.BitSyn
import Mp4ff.Lemmas.RbspTrailing
/-!
The round trip of the bitstream-syntax DSL: reading the bits `ops` wrote for a trace gives back the trace (`parse_ops`).
Hence the reader of a serialised NAL unit ends in front of the closing stop bit, every byte accounted for
(`parse_serialized`); what a parser does behind its syntax (look-ahead, trailing bits, header size) starts from that
state.  Also the executable checks by which concrete vectors establish `TraceOK`.
-/
namespace Mp4ff.BitSyn
open Mp4ff.Bits

/-- `stopped = false` is an invariant along the way, since every accumulated trace is a prefix of the result -/
theorem parse_ops (f : Nat) : ∀ (L : List Syn) (acc src : Trace) (os : List Op) (acc' src' : Trace)
    (e : ER) (P : Bytes) (tail : List Bool),
    ops f L acc src = some (os, acc', src') → stopped acc' = false →
    (∀ op ∈ os, op.OK) → e.Inv P → e.abs P = opsBits os ++ tail →
    ∃ e' P', parse f L acc e = some (acc', e') ∧ e'.Inv P' ∧ e'.abs P' = tail ∧
      e'.nread + e'.rest.length = e.nread + e.rest.length := by
  induction f with
  | zero => intro L acc src os acc' src' e P tail h; simp [ops] at h
  | succ f ih =>
    intro L acc src os acc' src' e P tail h hst hok he habs
    have hs : stopped acc = false := ops_stopped_prefix h hst
    -- a body and then what follows it (`cond` taken, `rep` with an iteration to go): the hypothesis twice
    have seq : ∀ {body rest' : List Syn} {o1 a1 s1 o2}, ops f body acc src = some (o1, a1, s1) →
        ops f rest' a1 s1 = some (o2, acc', src') → os = o1 ++ o2 →
        ∃ e1 e' P', parse f body acc e = some (a1, e1) ∧ parse f rest' a1 e1 = some (acc', e') ∧ e'.Inv P' ∧
          e'.abs P' = tail ∧ e'.nread + e'.rest.length = e.nread + e.rest.length := by
      intro body rest' o1 a1 s1 o2 h1 h2 ho
      subst ho
      rw [opsBits_append, List.append_assoc] at habs
      obtain ⟨e1, P1, b1, b2, b3, b4⟩ :=
        ih _ _ _ _ _ _ e P _ h1 (ops_stopped_prefix h2 hst) (fun op h => hok op (List.mem_append_left _ h)) he habs
      obtain ⟨e2, P2, c1, c2, c3, c4⟩ :=
        ih _ _ _ _ _ _ e1 P1 tail h2 hst (fun op h => hok op (List.mem_append_right _ h)) b2 b3
      exact ⟨e1, e2, P2, b1, c1, c2, c3, c4.trans b4⟩
    obtain _ | ⟨s, rest⟩ := L
    · obtain ⟨rfl, rfl, rfl⟩ := ops_nil_inv h
      exact ⟨e, P, rfl, he, by simpa [opsBits] using habs, rfl⟩
    · -- in each case the reader's equation for the element, with its tests decided, is `simp only [parse, hs, …]`
      induction s using Syn.leafCases with
      | leaf s nm hn =>
        obtain ⟨v, s0, o, rfl, hv, hr, rfl⟩ := ops_leaf_inv hn h
        simp only [opsBits, List.append_assoc] at habs
        obtain ⟨e1, P1, a1, a2, a3, a4⟩ := ER.reads_op (hok _ List.mem_cons_self) he habs
        obtain ⟨e', P', b1, b2, b3, b4⟩ :=
          ih _ _ _ _ _ _ e1 P1 tail hr hst (fun op h => hok op (List.mem_cons_of_mem _ h)) a2 a3
        refine ⟨e', P', ?_, b2, b3, b4.trans a4⟩
        rw [parse_leaf hn v _ _ _ _ hs, show e.readOp _ = _ from a1, hv]; exact b1
      | cond p body =>
        obtain ⟨o1, a1, s1, o2, hb, h2, ho⟩ := ops_cond_inv h
        rcases hb with ⟨hp, h1⟩ | ⟨hp, rfl, rfl, rfl⟩
        · obtain ⟨e1, e', P', b, c, r⟩ := seq h1 h2 ho
          exact ⟨e', P', by simp only [parse, hs, hp, b, c, Bool.false_eq_true, if_false, if_true], r⟩
        · subst ho
          simp only [parse, hs, hp, Bool.false_eq_true, if_false]
          exact ih _ _ _ _ _ _ e P tail h2 hst hok he habs
      | rep cap n body =>
        rcases ops_rep_inv h with ⟨hn, h2⟩ | ⟨k, o1, a1, s1, o2, hn, h1, h2, ho⟩
        · simp only [parse, hs, hn, Bool.false_eq_true, if_false]
          exact ih _ _ _ _ _ _ e P tail h2 hst hok he habs
        · obtain ⟨e1, e', P', b, c, r⟩ := seq h1 h2 ho
          exact ⟨e', P', by simp only [parse, hs, hn, b, c, Bool.false_eq_true, if_false], r⟩
      | seterr p =>
        obtain ⟨hp, h2⟩ := ops_guard_inv (.inl rfl) h
        simp only [parse, hs, hp, Bool.false_eq_true, if_false]
        exact ih _ _ _ _ _ _ e P tail h2 hst hok he habs
      | abort p =>
        obtain ⟨hp, h2⟩ := ops_guard_inv (.inr rfl) h
        simp only [parse, hs, hp, Bool.false_eq_true, if_false]
        exact ih _ _ _ _ _ _ e P tail h2 hst hok he habs

/-- a trace is a valid value assignment of syntax `L`: it has the syntax's shape, every value is in range, it does not
    use the reserved name, and no `seterr`/`abort` condition holds along it -/
def TraceOK (f : Nat) (L : List Syn) (tr : Trace) : Prop :=
  (∃ os a, ops f L [] tr = some (os, a, []) ∧ ∀ op ∈ os, op.OK) ∧ stopped tr = false

theorem TraceOK.ops {f : Nat} {L : List Syn} {tr : Trace} (h : TraceOK f L tr) :
    ∃ os, ops f L [] tr = some (os, tr, []) ∧ ∀ op ∈ os, op.OK := by
  obtain ⟨⟨os, a, hops, hok⟩, _⟩ := h
  obtain rfl : a = tr := by simpa using ops_acc_eq hops
  exact ⟨os, hops, hok⟩

/-- where the reader `e` (over the plain bytes `P`) stands when `parse f L` has read a serialised `nalu` back to `tr`:
    in front of the stop bit and its `m` alignment zeros, every byte of `nalu` accounted for -/
structure AtStopBit (f : Nat) (L : List Syn) (nalu : Bytes) (tr : Trace) (e : ER) (P : Bytes) (m : Nat) : Prop where
  parsed : parse f L [] { rest := nalu } = some (tr, e)
  inv : e.Inv P
  abs : e.abs P = true :: List.replicate m false
  count : e.nread + e.rest.length = nalu.length

theorem parse_serialized {f : Nat} {L : List Syn} {tr : Trace} {nalu : Bytes} (h : TraceOK f L tr)
    (hs : serialize f L tr = some nalu) : ∃ e P m, AtStopBit f L nalu tr e P m := by
  obtain ⟨os, hops, hok⟩ := h.ops
  simp only [serialize, hops, Option.some.injEq] at hs
  obtain ⟨P, m, hinv, habs⟩ := ER.init_written os hok
  rw [hs] at hinv habs
  obtain ⟨e, P', hp, hi, ha, hn⟩ := parse_ops f L [] tr os tr [] _ P _ hops h.2 hok hinv habs
  exact ⟨e, P', m, { parsed := hp, inv := hi, abs := ha, count := by simpa using hn }⟩

theorem serialize_parse (f : Nat) (L : List Syn) (tr : Trace) (h : TraceOK f L tr) :
    ∃ nalu e, serialize f L tr = some nalu ∧ parseNalu f L nalu = some (tr, e) ∧ e.err = false ∧
      e.nread + e.rest.length = nalu.length := by
  obtain ⟨os, hops, _⟩ := h.ops
  have hs : serialize f L tr = some ((os.foldl EW.writeOp {}).writeRbspTrailingBits).out := by
    simp only [serialize, hops]
  obtain ⟨e, P, m, he⟩ := parse_serialized h hs
  exact ⟨_, e, hs, he.parsed, he.inv.err, he.count⟩

theorem moreRbspData_at_stop {e : ER} {P : Bytes} {m : Nat} (h : e.Inv P)
    (habs : e.abs P = true :: List.replicate m false) : Sei.moreRbspData e = (e, false) := by
  have hm := Sei.moreRbspData_spec e P true _ h habs
  rwa [if_pos rfl, show (List.replicate m false).any id = false by simp] at hm

end Mp4ff.BitSyn

namespace Mp4ff.HevcSps
open Mp4ff.BitSyn Mp4ff.Bits

theorem extFlags_at_trailing (e : ER) (P : Bytes) (m : Nat) (h : e.Inv P)
    (habs : e.abs P = true :: List.replicate m false) (fuel : Nat) : extFlags (fuel + 1) e [] = (e, []) := by
  simp [extFlags, moreRbspData_at_stop h habs]

end Mp4ff.HevcSps

namespace Mp4ff.C15b
open Mp4ff.BitSyn Mp4ff.Bits

instance (op : Op) : Decidable op.OK := by cases op <;> unfold Op.OK <;> infer_instance

/-- executable check of `TraceOK` -/
def traceOKb (f : Nat) (L : List Syn) (acc tr : Trace) : Bool :=
  match ops f L acc tr with
  | some (os, _, []) => os.all (fun op => decide op.OK) && !stopped (acc ++ tr)
  | _ => false

/-- what the check establishes; `TraceOK` is the case `acc = []`, `AvcPps.TailOK` the case of the tail syntax -/
theorem of_traceOKb {f : Nat} {L : List Syn} {acc tr : Trace} (h : traceOKb f L acc tr = true) :
    (∃ os a, ops f L acc tr = some (os, a, []) ∧ ∀ op ∈ os, op.OK) ∧ stopped (acc ++ tr) = false := by
  unfold traceOKb at h
  split at h
  · rename_i os a heq
    simp only [Bool.and_eq_true, List.all_eq_true, decide_eq_true_eq, Bool.not_eq_true'] at h
    exact ⟨⟨os, a, heq, h.1⟩, h.2⟩
  · cases h

/-- executable check of `TraceOK` and of the serialisation at once (`ops`, nearly all of the work, runs once) -/
def serializedb (f : Nat) (L : List Syn) (tr : Trace) (nalu : Bytes) : Bool :=
  match ops f L [] tr with
  | some (os, _, []) =>
    os.all (fun op => decide op.OK) && !stopped tr && ((os.foldl EW.writeOp {}).writeRbspTrailingBits).out == nalu
  | _ => false

theorem of_serializedb {f : Nat} {L : List Syn} {tr : Trace} {nalu : Bytes}
    (h : serializedb f L tr nalu = true) : TraceOK f L tr ∧ serialize f L tr = some nalu := by
  unfold serializedb at h
  split at h
  · rename_i os a heq
    simp only [Bool.and_eq_true, List.all_eq_true, decide_eq_true_eq, Bool.not_eq_true', beq_iff_eq] at h
    exact ⟨⟨⟨os, a, heq, h.1.1⟩, h.1.2⟩, by simp only [serialize, heq, h.2]⟩
  · cases h

end Mp4ff.C15b
