import Mp4ff.Lemmas.Basics
import Mp4ff.Lemmas.Cells
import Mp4ff.Lemmas.Runs
/-!
C09, the per-sample tables: the queries of stts (decode time, duration, sample at a time), ctts, stss, stsz and
stco/co64 against the per-sample expansion of the table.
The stts walks are proved run by run with the lemmas of Runs.lean; the binary searches of ctts and stss are `bsFirst`
(Cells.lean).
-/
namespace Mp4ff.Stbl

theorem getDur_go_spec (cs : List Nat) : ∀ (ds : List Nat) (nr dur : Nat),
    nr < (expandRuns cs ds).length →
    Stts.getDur.go cs ds nr dur = (expandRuns cs ds)[nr]?.getD 0 := by
  induction cs with
  | nil => intro ds nr dur h; simp [expandRuns_nil_left] at h
  | cons c cs ih =>
    intro ds nr dur h
    cases ds with
    | nil => simp [expandRuns_nil_right] at h
    | cons d ds =>
      rw [expandRuns_cons] at h ⊢
      rw [List.length_append, List.length_replicate] at h
      unfold Stts.getDur.go
      by_cases hc : nr ≥ c
      · obtain ⟨r, rfl⟩ := Nat.exists_eq_add_of_le hc
        rw [if_pos hc, Nat.add_sub_cancel_left, ih ds r d (Nat.lt_of_add_lt_add_left h), getElem?_run_add]
      · rw [if_neg hc, getElem?_run_lt c d _ (Nat.lt_of_not_le hc)]; rfl

theorem getDecodeTime_go_spec (cs : List Nat) : ∀ (ds : List Nat) (rem dec : Nat),
    rem < (expandRuns cs ds).length → dec + (expandRuns cs ds).sum < U64 →
    Stts.getDecodeTime.go cs ds rem dec =
      some (dec + ((expandRuns cs ds).take rem).sum, (expandRuns cs ds)[rem]?.getD 0) := by
  induction cs with
  | nil => intro ds nr dur h; simp [expandRuns_nil_left] at h
  | cons c cs ih =>
    intro ds rem dec h hs
    cases ds with
    | nil => simp [expandRuns_nil_right] at h
    | cons d ds =>
      rw [expandRuns_cons] at h hs ⊢
      rw [List.length_append, List.length_replicate] at h
      rw [List.sum_append, List.sum_replicate_nat] at hs
      have hcd : dec + c * d < U64 := Nat.lt_of_le_of_lt (Nat.add_le_add_left (Nat.le_add_right _ _) dec) hs
      unfold Stts.getDecodeTime.go
      by_cases hc : rem ≥ c
      · obtain ⟨r, rfl⟩ := Nat.exists_eq_add_of_le hc
        rw [if_pos hc, Nat.add_sub_cancel_left, Nat.mod_eq_of_lt hcd,
          ih ds r (dec + c * d) (Nat.lt_of_add_lt_add_left h) (by rwa [Nat.add_assoc]), getElem?_run_add,
          sum_take_run_add, Nat.add_assoc]
      · have hlt := Nat.lt_of_not_le hc
        have : rem * d ≤ c * d := Nat.mul_le_mul_right _ (Nat.le_of_lt hlt)
        rw [if_neg hc, getElem?_run_lt c d _ hlt, sum_take_run_le c d _ (Nat.le_of_lt hlt)]
        split
        · rw [Nat.mod_eq_of_lt (Nat.lt_of_le_of_lt (Nat.add_le_add_left this dec) hcd)]; rfl
        · rw [show rem = 0 from Nat.eq_zero_of_not_pos ‹_›, Nat.zero_mul, Nat.add_zero]; rfl

/-- `k`, the quotient `rel / d` rounded up as `GetSampleNrAtTime` does it, is the least number of steps of `d` that
    reach `rel` -/
theorem ceil_le_iff (rel d : Nat) (hd : 0 < d) (i : Nat) :
    rel ≤ i * d ↔ (if rel % d ≠ 0 then rel / d + 1 else rel / d) ≤ i := by
  have hdm := Nat.div_add_mod rel d
  have hml := Nat.mod_lt rel hd
  rw [Nat.mul_comm d] at hdm
  generalize rel / d = q at hdm ⊢
  generalize rel % d = m at hdm hml ⊢
  subst hdm
  constructor
  · intro h
    split
    · -- a nonzero remainder: `q * d < rel ≤ i * d`
      exact Nat.lt_of_mul_lt_mul_right (a := d) (by omega)
    · exact Nat.le_of_mul_le_mul_right (by omega) hd
  · intro h
    split at h
    · have : (q + 1) * d ≤ i * d := Nat.mul_le_mul_right d h
      rw [Nat.succ_mul] at this; omega
    · have : q * d ≤ i * d := Nat.mul_le_mul_right d h
      omega

/-- `j` is the least number of leading entries of `durs` whose sum reaches `rel` -/
structure FirstAt (durs : List Nat) (rel j : Nat) : Prop where
  le_length : j ≤ durs.length
  reaches : rel ≤ (durs.take j).sum
  least : ∀ i < j, (durs.take i).sum < rel

/-- `rel` is reached inside the leading run, by the least number `k` of steps of `d` that reach it -/
theorem FirstAt.inRun {c d rel k : Nat} (E : List Nat) (hk : ∀ i, rel ≤ i * d ↔ k ≤ i) (hc : k ≤ c) :
    FirstAt (List.replicate c d ++ E) rel k where
  le_length := by rw [List.length_append, List.length_replicate]; exact Nat.le_trans hc (Nat.le_add_right c _)
  reaches := by rw [sum_take_run_le c d _ hc]; exact (hk k).2 (Nat.le_refl k)
  least i hi := by
    rw [sum_take_run_le c d _ (Nat.le_trans (Nat.le_of_lt hi) hc)]
    exact Nat.lt_of_not_le fun h => Nat.not_le_of_lt hi ((hk i).1 h)

/-- `rel` is reached behind the leading run: `c` entries further on, with `c * d` less to go -/
theorem FirstAt.behindRun {c d rel j : Nat} {E : List Nat} (hd : 0 < d) (hr : c * d ≤ rel)
    (h : FirstAt E (rel - c * d) j) : FirstAt (List.replicate c d ++ E) rel (c + j) where
  le_length := by rw [List.length_append, List.length_replicate]; exact Nat.add_le_add_left h.le_length c
  reaches := by have := h.reaches; rw [sum_take_run_add]; omega
  least i hi := by
    rcases Nat.lt_or_ge i c with hic | hic
    · -- an entry of the run itself: `d` is positive
      have : i * d < c * d := Nat.mul_lt_mul_of_pos_right hic hd
      rw [sum_take_run_le c d _ (Nat.le_of_lt hic)]; omega
    · obtain ⟨r, rfl⟩ := Nat.exists_eq_add_of_le hic
      have := h.least r (Nat.lt_of_add_lt_add_left hi)
      rw [sum_take_run_add]; omega

/-- The walk of `GetSampleNrAtTime`, entered before the runs `cs`, `ds` at time `accTime ≤ t` with `accNr` samples
    behind it.  If `t` lies before the end of the track the answer is `accNr + j + 1` for the least `j` such that the
    next `j` samples reach `t`; if not there is none.  The side conditions: counts and durations pair up, no duration
    is 0, the end time does not wrap (uint64) and neither does the sample number (uint32). -/
theorem getSampleNrAtTime_go_spec (b : Stts) (t : Nat) (hb : b.delta.getLast? ≠ some 0) (cs : List Nat) :
    ∀ (ds : List Nat) (accTime accNr : Nat),
    cs.length = ds.length → (∀ d ∈ ds, 0 < d) → accTime ≤ t →
    accTime + (expandRuns cs ds).sum < U64 → accNr + (expandRuns cs ds).length + 1 < U32 →
    (t < accTime + (expandRuns cs ds).sum →
      ∃ j, Stts.getSampleNrAtTime.go b t cs ds accTime accNr = some (accNr + j + 1) ∧
        FirstAt (expandRuns cs ds) (t - accTime) j) ∧
    (accTime + (expandRuns cs ds).sum ≤ t → Stts.getSampleNrAtTime.go b t cs ds accTime accNr = none) := by
  induction cs with
  | nil =>
    intro ds accTime accNr hl _ hat _ _
    rw [expandRuns_nil_left]
    refine ⟨fun h => absurd h (Nat.not_lt_of_le hat), fun _ => ?_⟩
    unfold Stts.getSampleNrAtTime.go
    split
    · rename_i h1 _; exact absurd h1 hb
    · rfl
  | cons c cs ih =>
    intro ds accTime accNr hl hpos hat hsum hnr
    cases ds with
    | nil => simp at hl
    | cons d ds =>
      have hd : 0 < d := hpos d (by simp)
      rw [expandRuns_cons] at hsum hnr ⊢
      rw [List.sum_append, List.sum_replicate_nat] at hsum ⊢
      rw [List.length_append, List.length_replicate] at hnr
      have hle : accTime + c * d ≤ accTime + (c * d + (expandRuns cs ds).sum) :=
        Nat.add_le_add_left (Nat.le_add_right _ _) _
      have hend : accTime + c * d < U64 := Nat.lt_of_le_of_lt hle hsum
      have hrun : c * d < U64 := Nat.lt_of_le_of_lt (Nat.le_add_left _ _) hend
      unfold Stts.getSampleNrAtTime.go
      rw [Nat.mul_comm d c, Nat.mod_eq_of_lt hrun, Nat.mod_eq_of_lt hend]
      by_cases hlt : t < accTime + c * d
      · -- this run contains `t`: the answer is `k` steps of `d` from its start
        rw [if_pos hlt]
        simp only [wrap_sub hat (Nat.lt_trans hlt hend)]
        have hk := ceil_le_iff (t - accTime) d hd
        generalize (if (t - accTime) % d ≠ 0 then (t - accTime) / d + 1 else (t - accTime) / d) = k at hk ⊢
        have hkc : k ≤ c := (hk c).1 (Nat.sub_le_iff_le_add'.2 (Nat.le_of_lt hlt))
        refine ⟨fun _ => ⟨k, ?_, .inRun _ hk hkc⟩, fun h => absurd hlt (Nat.not_lt_of_le (Nat.le_trans hle h))⟩
        obtain ⟨hk32, hnr'⟩ : k < U32 ∧ accNr + k + 1 < U32 := by omega
        rw [Nat.mod_eq_of_lt hk32, Nat.mod_eq_of_lt hnr']
      · -- `t` lies behind this run: its length and duration go into the accumulators, neither wraps
        have hat' : accTime + c * d ≤ t := Nat.le_of_not_lt hlt
        obtain ⟨hsum', hnr', hnrc⟩ : accTime + c * d + (expandRuns cs ds).sum < U64 ∧
            accNr + c + (expandRuns cs ds).length + 1 < U32 ∧ accNr + c < U32 := by omega
        rw [if_neg hlt, Nat.mod_eq_of_lt hnrc]
        obtain ⟨ih1, ih2⟩ := ih ds (accTime + c * d) (accNr + c) (by simpa using hl)
          (fun x hx => hpos x (by simp [hx])) hat' hsum' hnr'
        refine ⟨fun h => ?_, fun h => ih2 (by rwa [Nat.add_assoc])⟩
        obtain ⟨j, hgo, hj⟩ := ih1 (by rwa [Nat.add_assoc])
        exact ⟨c + j, by rw [hgo, Nat.add_assoc accNr],
          (Nat.sub_add_eq t accTime _ ▸ hj).behindRun hd (Nat.le_sub_of_add_le' hat')⟩

def Stts.OK (b : Stts) : Prop := b.count.length = b.delta.length ∧ b.durations.sum < U64

theorem getDecodeTime_spec (b : Stts) (h : b.OK) (n : Nat) (h1 : 1 ≤ n) (hn : n ≤ b.durations.length) :
    b.getDecodeTime n = some (naiveDecodeTime b.durations n, b.durations.getD (n - 1) 0) := by
  obtain ⟨_, hs⟩ := h
  unfold Stts.getDecodeTime
  rw [if_neg (by omega)]
  unfold Stts.durations at *
  rw [getDecodeTime_go_spec b.count b.delta (n - 1) 0 (by omega) (by omega), naiveDecodeTime, Nat.zero_add,
    List.getD_eq_getElem?_getD]

theorem getDur_spec (b : Stts) (h : b.OK) (n : Nat) (h1 : 1 ≤ n) (hn : n ≤ b.durations.length) :
    b.getDur n = some (b.durations.getD (n - 1) 0) := by
  unfold Stts.getDur
  rw [if_neg (by omega)]
  unfold Stts.durations at *
  simp only [getDur_go_spec b.count b.delta (n - 1) 0 (by omega), List.getD_eq_getElem?_getD]

/-- start time of sample k (1-based); sample N+1 is the virtual sample starting at the end of the track -/
def startTime (durs : List Nat) (k : Nat) : Nat := (durs.take (k - 1)).sum

theorem startTime_strictMono (durs : List Nat) (hpos : ∀ d ∈ durs, 0 < d) (j k : Nat)
    (h1 : 1 ≤ j) (h2 : j < k) (h3 : k ≤ durs.length + 1) : startTime durs j < startTime durs k := by
  obtain ⟨i, rfl⟩ := Nat.exists_eq_add_one_of_ne_zero (Nat.ne_of_gt h1)
  obtain ⟨d, rfl⟩ := Nat.exists_eq_add_of_lt h2
  have hp : i < durs.length := by omega
  -- the durations in between start with that of sample `i + 1`, which is positive
  rw [startTime, startTime, Nat.add_sub_cancel, Nat.add_sub_cancel, Nat.add_assoc, Nat.add_comm 1, List.take_add,
    List.sum_append, List.drop_eq_getElem_cons hp, List.take_succ_cons, List.sum_cons]
  exact Nat.lt_add_of_pos_right (Nat.add_pos_left (hpos _ (List.getElem_mem hp)) _)

theorem getSampleNrAtTime_spec (b : Stts) (h : b.OK) (hpos : ∀ d ∈ b.delta, 0 < d) (hc : ∀ c ∈ b.count, 0 < c)
    (hN : b.durations.length + 1 < U32) (t : Nat) :
    (t < b.durations.sum →
      ∃ k, b.getSampleNrAtTime t = some k ∧ 1 ≤ k ∧ k ≤ b.durations.length + 1 ∧
        t ≤ startTime b.durations k ∧ ∀ j, 1 ≤ j → j < k → startTime b.durations j < t) ∧
    (b.durations.sum ≤ t → b.getSampleNrAtTime t = none) := by
  obtain ⟨hl, hs⟩ := h
  unfold Stts.durations at *
  have hb : b.delta.getLast? ≠ some 0 := fun e => Nat.lt_irrefl 0 (hpos 0 (List.mem_of_getLast? e))
  have := getSampleNrAtTime_go_spec b t hb b.count b.delta 0 0 hl hpos (Nat.zero_le _) (by rwa [Nat.zero_add])
    (by rwa [Nat.zero_add])
  simp only [Nat.zero_add] at this
  obtain ⟨p1, p2⟩ := this
  unfold Stts.getSampleNrAtTime
  refine ⟨fun h => ?_, p2⟩
  obtain ⟨j, hgo, hj⟩ := p1 h
  exact ⟨j + 1, hgo, Nat.le_add_left 1 j, Nat.succ_le_succ hj.le_length, hj.reaches,
    fun i _ hi => hj.least (i - 1) (by omega)⟩

/-- the running sums `s + c₁, s + c₁ + c₂, …`: the cumulative ends of a ctts box after the leading 0 -/
def psums (s : Nat) : List Nat → List Nat
  | [] => []
  | c :: cs => (s + c) :: psums (s + c) cs

theorem psums_length (cs : List Nat) : ∀ s, (psums s cs).length = cs.length := by
  induction cs with
  | nil => intro s; rfl
  | cons c cs ih => intro s; simp [psums, ih]

theorem psums_getD (cs : List Nat) : ∀ s i, i ≤ cs.length →
    (s :: psums s cs).getD i 0 = s + (cs.take i).sum := by
  induction cs with
  | nil => intro s i h; rw [Nat.le_zero.1 h]; rfl
  | cons c cs ih =>
    intro s i h
    cases i with
    | zero => rfl
    | succ i =>
      rw [psums, List.getD_cons_succ, ih (s + c) i (Nat.le_of_succ_le_succ h), List.take_succ_cons, List.sum_cons,
        Nat.add_assoc]

theorem ofCounts_endSampleNr (counts : List Nat) (offs : List Int) (hs : counts.sum < U32) :
    (Ctts.ofCounts counts offs).endSampleNr = 0 :: psums 0 counts := by
  -- the fold of `ofCounts`, from any state
  have key : ∀ (cs : List Nat) (acc : List Nat) (s : Nat), s + cs.sum < U32 →
      (cs.foldl (fun (acc : List Nat × Nat) c => let e := (acc.2 + c) % U32; (acc.1 ++ [e], e)) (acc, s)).1
        = acc ++ psums s cs := by
    intro cs
    induction cs with
    | nil => intro acc s _; simp [psums]
    | cons c cs ih =>
      intro acc s h
      rw [List.sum_cons] at h
      rw [List.foldl_cons]
      simp only []
      rw [Nat.mod_eq_of_lt (by omega), ih _ _ (by omega)]
      simp [psums]
  unfold Ctts.ofCounts
  simp only []
  rw [key counts [0] 0 (by omega)]; rfl

/-- the search over the cumulative ends finds the run `j` that holds sample `n` -/
theorem ctts_locate (counts : List Nat) (n : Nat) (h1 : 1 ≤ n) (hn : n ≤ counts.sum) :
    ∃ j, j < counts.length ∧ (counts.take j).sum < n ∧ n ≤ (counts.take (j + 1)).sum ∧
      bsearchGE (0 :: psums 0 counts) n ((0 :: psums 0 counts).length + 1) 0 (0 :: psums 0 counts).length = j + 1 := by
  have hlen : (0 :: psums 0 counts).length = counts.length + 1 := by simp [psums_length]
  obtain ⟨m, rfl⟩ := Nat.exists_eq_add_one_of_ne_zero (Nat.ne_of_gt h1)
  obtain ⟨j, _, j1, j2, j3⟩ := exists_cell (fun i => (counts.take i).sum) (lo := 0) (a := m) (Nat.zero_le _)
    (hi := counts.length) (Nat.zero_le _) (by rw [List.take_length]; exact hn)
  refine ⟨j, j1, Nat.lt_succ_of_le j2, j3, ?_⟩
  -- the cumulative ends reach `m + 1` from index `j + 1` on
  rw [bsearchGE_eq_bsFirst, hlen]
  refine bsFirst_eq _ (j + 1) _ _ _ (Nat.zero_le _) (Nat.le_succ_of_le j1) (by omega) fun i _ hi => ?_
  rw [decide_eq_true_eq, psums_getD counts 0 i (Nat.le_of_lt_succ hi), Nat.zero_add]
  constructor
  · intro h
    apply Nat.lt_of_not_le
    intro hij
    exact Nat.not_succ_le_self m (Nat.le_trans h (Nat.le_trans (sum_take_mono counts i j hij) j2))
  · intro h
    exact Nat.le_trans j3 (sum_take_mono counts (j + 1) i h)

theorem getCto_spec (counts : List Nat) (offs : List Int) (hl : counts.length = offs.length)
    (hs : counts.sum < U32) (n : Nat) (h1 : 1 ≤ n) (hn : n ≤ counts.sum) :
    (Ctts.ofCounts counts offs).getCto n = (expandRuns counts offs)[n - 1]? := by
  obtain ⟨j, j1, j2, j3, hj⟩ := ctts_locate counts n h1 hn
  unfold Ctts.getCto
  rw [if_neg (by omega), ofCounts_endSampleNr counts offs hs]
  simp only [hj]
  rw [if_neg (by omega), Nat.add_sub_cancel]
  exact (expandRuns_getElem? counts offs j (n - 1) hl (by omega) (by omega)).symm

theorem isSyncSample_spec (nums : List Nat) (hs : nums.Pairwise (· < ·)) (n : Nat) :
    isSyncSample nums n = decide (n ∈ nums) := by
  have hg : ∀ i, (hi : i < nums.length) → nums.getD i 0 = nums[i] := fun _ _ => (List.getElem_eq_getD 0).symm
  have hle : ∀ i j, i ≤ j → j < nums.length → nums.getD i 0 ≤ nums.getD j 0 := fun i j hij hj => by
    rcases Nat.eq_or_lt_of_le hij with rfl | hlt
    · exact Nat.le_refl _
    · rw [hg i (by omega), hg j hj]
      exact Nat.le_of_lt (List.pairwise_iff_getElem.1 hs i j _ hj hlt)
  obtain ⟨hr, hp⟩ := bsFirst_spec (fun m => decide (n ≤ nums.getD m 0)) nums.length (by
    intro i j hij hj
    simp only [decide_eq_true_eq]
    exact fun h => Nat.le_trans h (hle i j hij hj))
  unfold isSyncSample
  rw [bsearchGE_eq_bsFirst]
  generalize bsFirst _ (nums.length + 1) 0 nums.length = r at hr hp
  simp only [decide_eq_true_eq] at hp
  simp only [decide_eq_decide]
  constructor
  · rintro ⟨hr, he⟩
    rw [hg r hr] at he
    rw [← he]; exact List.getElem_mem hr
  · intro hmem
    obtain ⟨p, hp', he⟩ := List.getElem_of_mem hmem
    rw [← hg p hp'] at he
    subst he
    -- the search stops at or before `p`, on a value that is both ≥ and ≤ `nums[p]`
    have hrp : r ≤ p := (hp p hp').1 (Nat.le_refl _)
    have hrl : r < nums.length := by omega
    exact ⟨hrl, Nat.le_antisymm (hle r p hrp hp') ((hp r hrl).2 (Nat.le_refl _))⟩

def Stsz.OK (b : Stsz) : Prop :=
  (b.uniform = 0 → b.sizes.length = b.sampleNumber) ∧ (b.uniform ≠ 0 → b.sizes = []) ∧
  b.sampleNumber * (if b.uniform ≠ 0 then b.uniform else (b.sizes.foldl max 0)) < U64

def Stsz.sizeOf (b : Stsz) (n : Nat) : Nat := if b.uniform ≠ 0 then b.uniform else b.sizes.getD (n - 1) 0

theorem getSampleSize_spec (b : Stsz) (h : b.OK) (n : Nat) (h1 : 1 ≤ n) (hn : n ≤ b.sampleNumber) :
    b.getSampleSize n = some (b.sizeOf n) := by
  obtain ⟨ha, hb, _⟩ := h
  unfold Stsz.getSampleSize Stsz.sizeOf
  by_cases hu : b.uniform = 0
  · have hl := ha hu
    rw [if_neg (by omega), if_neg (by omega), if_neg (by simp [hu])]
    rw [List.getD_eq_getElem?_getD, List.getElem?_eq_getElem (by omega)]
    simp
  · have hl := hb hu
    rw [if_pos (by simp [hl]; omega), if_pos hu]

/-- the bound `Stsz.OK` puts on every sample size -/
def Stsz.maxSize (b : Stsz) : Nat := if b.uniform ≠ 0 then b.uniform else b.sizes.foldl max 0

theorem Stsz.sizeOf_le (b : Stsz) (n : Nat) : b.sizeOf n ≤ b.maxSize := by
  unfold Stsz.sizeOf Stsz.maxSize
  split
  · exact Nat.le_refl _
  · rw [List.getD_eq_getElem?_getD, List.foldl_max]
    cases hg : b.sizes[n - 1]? with
    | none => exact Nat.zero_le _
    | some v => exact Nat.le_trans (List.le_max?_getD_of_mem (List.mem_of_getElem? hg)) (Nat.le_max_right _ _)

/-- total size of the `k` samples from `x` on -/
def Stsz.sumSizes (b : Stsz) (x k : Nat) : Nat := ((List.range' x k).map b.sizeOf).sum

theorem Stsz.sumSizes_zero (sz : Stsz) (x) : sz.sumSizes x 0 = 0 := by simp [Stsz.sumSizes]
theorem Stsz.sumSizes_succ_front (sz : Stsz) (x k) :
    sz.sumSizes x (k + 1) = sz.sizeOf x + sz.sumSizes (x + 1) k := by
  simp [Stsz.sumSizes, List.range'_succ]
theorem Stsz.sumSizes_succ_back (sz : Stsz) (x k) :
    sz.sumSizes x (k + 1) = sz.sumSizes x k + sz.sizeOf (x + k) := by
  simp [Stsz.sumSizes, List.range'_concat, List.sum_append]

theorem Stsz.sumSizes_le (b : Stsz) (x : Nat) {k N : Nat} (hk : k ≤ N) : b.sumSizes x k ≤ N * b.maxSize := by
  induction k generalizing x N with
  | zero => rw [Stsz.sumSizes_zero]; exact Nat.zero_le _
  | succ k ih =>
    obtain ⟨M, rfl⟩ := Nat.exists_eq_add_one.2 (by omega : 0 < N)
    have := ih (x + 1) (Nat.le_of_succ_le_succ hk)
    have := b.sizeOf_le x
    rw [Stsz.sumSizes_succ_front, Nat.succ_mul]; omega

theorem getTotalSampleSize_spec (b : Stsz) (h : b.OK) (a c : Nat) (h1 : 1 ≤ a) (hac : a ≤ c + 1) (hn : c ≤ b.sampleNumber) :
    b.getTotalSampleSize a c = some (((List.range' a (c + 1 - a)).map b.sizeOf).sum) := by
  -- no wrap-around: at most `sampleNumber` sizes, each at most `maxSize`
  have hlt : b.sumSizes a (c + 1 - a) < U64 :=
    Nat.lt_of_le_of_lt (b.sumSizes_le a (Nat.sub_le_of_le_add (Nat.add_le_add hn h1))) h.2.2
  unfold Stsz.sumSizes at hlt
  unfold Stsz.getTotalSampleSize
  rw [if_neg (not_or.2 ⟨Nat.ne_of_gt h1, Nat.not_lt.2 hn⟩)]
  by_cases hca : c < a
  · rw [if_pos hca, Nat.sub_eq_zero_of_le hca]; rfl
  · rw [if_neg hca]
    by_cases hu : b.uniform ≠ 0
    · have hf : b.sizeOf = fun _ => b.uniform := by
        funext nr; unfold Stsz.sizeOf; rw [if_pos hu]
      rw [if_pos hu, ← Nat.mod_eq_of_lt hlt, hf, List.map_const', List.sum_replicate_nat, List.length_range',
        ← Nat.sub_add_comm (Nat.le_of_not_lt hca)]
    · have hf : b.sizeOf = fun nr => b.sizes.getD (nr - 1) 0 := by
        funext nr; unfold Stsz.sizeOf; rw [if_neg hu]
      rw [if_neg hu, ← Nat.mod_eq_of_lt hlt, hf]

theorem getTotalSampleSize_eq_sumSizes (sz : Stsz) (hok : sz.OK) {s e : Nat} (hs : 1 ≤ s) (hse : s ≤ e)
    (he : e ≤ sz.sampleNumber + 1) :
    sz.getTotalSampleSize s (e - 1) = some (sz.sumSizes s (e - s)) := by
  have he1 : e - 1 + 1 = e := Nat.sub_add_cancel (Nat.le_trans hs hse)
  rw [getTotalSampleSize_spec sz hok s (e - 1) hs (he1 ▸ hse) (Nat.sub_le_of_le_add he), he1]
  rfl

theorem getOffset_spec (offs : List Nat) (c : Nat) :
    getOffset offs c = if 1 ≤ c ∧ c ≤ offs.length then offs[c - 1]? else none := by
  unfold getOffset
  by_cases h : c = 0 ∨ c > offs.length
  · rw [if_pos h, if_neg (by omega)]
  · rw [if_neg h, if_pos (by omega)]

theorem getOffset_eq (offs : List Nat) {c : Nat} (h1 : 1 ≤ c) (hc : c ≤ offs.length) :
    getOffset offs c = some (offs.getD (c - 1) 0) := by
  rw [getOffset_spec, if_pos ⟨h1, hc⟩, List.getD_eq_getElem?_getD, List.getElem?_eq_getElem (by omega)]; rfl

end Mp4ff.Stbl
