import Mp4ff.Lemmas.Layout
/-!
What a layout decoder allocates (C04): the trace grows by at most one value per consumed byte, plus one per field outside
repeated groups (`listTopFlds`), provided every field inside a repeated group consumes a byte (`listRepOK`: a count field
cannot then ask for more values than there are bytes).  Both are computed for the table of specs.
-/
namespace Mp4ff.Layout

mutual
/-- every field inside a repeated group consumes at least one byte (so a count field cannot make the decoder produce
    more values than there are bytes) -/
def Syn.repOK (inRep : Bool) : Syn → Bool
  | .fld _ f => if inRep then fldPos f else true
  | .cond _ body => listRepOK inRep body
  | .rep _ body => listRepOK true body
def listRepOK (inRep : Bool) : List Syn → Bool
  | [] => true
  | s :: rest => s.repOK inRep && listRepOK inRep rest
end

mutual
/-- number of fields outside repeated groups -/
def Syn.topFlds : Syn → Nat
  | .fld _ _ => 1
  | .cond _ body => listTopFlds body
  | .rep _ _ => 0
def listTopFlds : List Syn → Nat
  | [] => 0
  | s :: rest => s.topFlds + listTopFlds rest
end

/-- the values a layout adds to the trace are paid for by consumed bytes, except the fields outside repeated groups
    (`inRep`: the layout is inside a repeated group, where every field consumes at least one byte) -/
theorem decode_alloc_gen (f : Nat) : ∀ (L : List Syn) (inRep : Bool), listRepOK inRep L = true → ∀ (acc : Trace)
    (bs : Bytes) (tr : Trace) (rest : Bytes), decode f L acc bs = some (tr, rest) →
    tr.length + rest.length ≤ acc.length + bs.length + (if inRep then 0 else listTopFlds L) := by
  induction f with
  | zero => intro L inRep hL acc bs tr rest h; simp [decode] at h
  | succ f ih =>
    intro L inRep hL acc bs tr rest h
    cases L with
    | nil =>
      simp only [decode, Option.some.injEq, Prod.mk.injEq] at h
      obtain ⟨rfl, rfl⟩ := h
      exact Nat.le_add_right _ _
    | cons s L' =>
    cases s with
    | fld nm fl =>
      simp only [decode] at h
      cases hd : decFld fl acc bs with
      | none => simp [hd] at h
      | some pr =>
        obtain ⟨v, bs'⟩ := pr
        simp only [hd] at h
        simp only [listRepOK, Syn.repOK, Bool.and_eq_true] at hL
        obtain ⟨b, d⟩ := decFld_some fl acc bs v bs' hd
        have hlen := d.length
        have e := ih L' inRep hL.2 _ _ _ _ h
        simp only [List.length_append, List.length_singleton] at e
        cases inRep with
        | true =>
          have := d.pos hL.1
          simp only [if_true] at e ⊢
          omega
        | false =>
          simp only [listTopFlds, Syn.topFlds, Bool.false_eq_true, if_false] at e ⊢
          omega
    | cond p body =>
      simp only [decode] at h
      simp only [listRepOK, Syn.repOK, Bool.and_eq_true] at hL
      -- the constant of the layout is that of the body plus that of what follows
      have top : (if inRep then 0 else listTopFlds (.cond p body :: L')) =
          (if inRep then 0 else listTopFlds body) + (if inRep then 0 else listTopFlds L') := by
        cases inRep <;> simp [listTopFlds, Syn.topFlds]
      split at h
      · cases hb : decode f body acc bs with
        | none => simp [hb] at h
        | some pr =>
          simp only [hb] at h
          have e1 := ih body inRep hL.1 _ _ _ _ hb
          have e2 := ih L' inRep hL.2 _ _ _ _ h
          omega
      · rw [top]
        exact Nat.le_trans (ih L' inRep hL.2 _ _ _ _ h) (Nat.add_le_add_left (Nat.le_add_left _ _) _)
    | rep cnt body =>
      simp only [decode] at h
      simp only [listRepOK, Syn.repOK, Bool.and_eq_true] at hL
      -- a repeated group adds nothing to the constant (inside it, `inRep` holds), whatever its count
      have top : ∀ c, (if inRep then 0 else listTopFlds (.rep c body :: L')) =
          (if inRep then 0 else listTopFlds L') := by
        intro c; cases inRep <;> simp [listTopFlds, Syn.topFlds]
      split at h
      · rw [top]; exact ih L' inRep hL.2 _ _ _ _ h
      · cases hb : decode f body acc bs with
        | none => simp [hb] at h
        | some pr =>
          simp only [hb] at h
          have e1 := ih body true hL.1 _ _ _ _ hb
          have e2 := ih _ inRep (by simp only [listRepOK, Syn.repOK, Bool.and_eq_true]; exact hL) _ _ _ _ h
          rw [top] at e2 ⊢
          simp only [if_true] at e1
          omega

theorem decode_alloc_bound (f : Nat) (L : List Syn) (hL : listRepOK false L = true) (acc : Trace) (bs : Bytes)
    (tr : Trace) (rest : Bytes) (h : decode f L acc bs = some (tr, rest)) :
    rest.length ≤ bs.length ∧ tr.length ≤ acc.length + (bs.length - rest.length) + listTopFlds L := by
  have := decode_alloc_gen f L false hL acc bs tr rest h
  obtain ⟨_, out, _, d⟩ := decode_some f L acc bs tr rest h
  have hlen := d.length
  simp only [Bool.false_eq_true, if_false] at this
  omega

end Mp4ff.Layout

namespace Mp4ff.Boxes
open Mp4ff.Layout

theorem specs_repOK : specs.all (fun p => listRepOK false p.2.layout) = true := by
  decide

theorem specs_topFlds : specs.all (fun p => decide (listTopFlds p.2.layout ≤ 40)) = true := by
  decide

theorem modelled_decoders_linear (ty : String) (sp : Spec) (hsp : (ty, sp) ∈ specs) (f : Nat) (payload : Bytes)
    (tr : Trace) (rest : Bytes) (h : decode f sp.layout [] payload = some (tr, rest)) :
    tr.length ≤ payload.length + 40 := by
  have h1 := List.all_eq_true.mp specs_repOK _ hsp
  have h2 := List.all_eq_true.mp specs_topFlds _ hsp
  simp only [decide_eq_true_eq] at h1 h2
  have := decode_alloc_bound f sp.layout h1 [] payload tr rest h
  simp only [List.length_nil] at this
  omega

end Mp4ff.Boxes

