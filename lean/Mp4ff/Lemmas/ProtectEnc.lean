import Mp4ff.Lemmas.ProtectChildren
/-!
`EncRel` is the graph of `encChildren`, which is what `encryptAll` does to the children of a moof.  The children are taken
apart once (`encChildren_rel`), and every statement about an encrypted moof is an induction on `EncRel`, with `EncTraf`
saying what happened to a traf: nothing, or `addProt` with the two boxes of `auxBoxes` and the offset of the senc data.
The library function `encryptFrag` is the case of one traf (`encryptFrag_eq_encryptAll`), so what is shown for `encryptAll`
holds for it; `encryptFrag_wellformed` collects it.
-/
namespace Mp4ff.Protect

/-- the auxiliary boxes of a traf that `EncryptFragment` accepts: exactly one trun, one sub-sample count per sample -/
def trafAux (sc : Scheme) (subs : List Nat) (t : Traf) : Option (Saiz × Senc) :=
  match t.truns with
  | [r] => if subs.length ≠ r.sampleSizes.length then none else auxBoxes sc subs
  | _ => none

/-- the model's nested matches on one traf are `trafAux`, with what is done with the two boxes as a continuation -/
theorem trafAux_bind {α : Type} (sc : Scheme) (subs : List Nat) (t : Traf) (k : Saiz → Senc → Option α) :
    (match t.truns with
      | [r] => if subs.length ≠ r.sampleSizes.length then none else
          match auxBoxes sc subs with
          | none => none
          | some (a, s) => k a s
      | _ => none) = (trafAux sc subs t).bind fun p => k p.1 p.2 := by
  unfold trafAux
  generalize t.truns = ts
  rcases ts with _ | ⟨r, _ | _⟩
  · rfl
  · by_cases hl : subs.length = r.sampleSizes.length
    · simp only [hl, ne_eq, not_true, if_false]
      cases auxBoxes sc subs <;> rfl
    · simp only [ne_eq, hl, not_false_iff, if_true]; rfl
  · rfl

theorem encChildren_congr (ps ps' : Nat → Option (Scheme × List Nat)) :
    ∀ l off, (∀ t ∈ trafsOf l, ps t.trackID = ps' t.trackID) → encChildren ps l off = encChildren ps' l off := by
  intro l off h
  fun_induction trafsOf l generalizing off
  · rfl
  · next t rest ih =>
    rw [encChildren, encChildren, h t List.mem_cons_self]
    simp only [ih _ fun t' ht' => h t' (List.mem_cons_of_mem _ ht')]
  · simp_all [encChildren]

/-- what `encryptAll` does to one traf that starts `p` bytes into the moof: nothing without parameters; else the traf has
    one trun, one sub-sample count per sample, and gets saiz, saio, senc appended, the saio offset being 16 bytes into the
    senc box (which starts after the traf header, the old children, the saiz and the 20-byte saio) -/
def EncTraf (ps : Nat → Option (Scheme × List Nat)) (p : Nat) (t t' : Traf) : Prop :=
  match ps t.trackID with
  | none => t' = t
  | some (sc, subs) => ∃ r a s, t.truns = [r] ∧ subs.length = r.sampleSizes.length ∧ auxBoxes sc subs = some (a, s) ∧
      t' = addProt a ((p + 8 + sizes t.children + a.size + 20 + 16 : Nat) : Int) s t

/-- the graph of `encChildren ps · off`: children other than trafs stay, a traf at offset `off` is related by `EncTraf` -/
inductive EncRel (ps : Nat → Option (Scheme × List Nat)) : Nat → List MoofChild → List MoofChild → Prop
  | nil {off} : EncRel ps off [] []
  | other {off k n rest r'} : EncRel ps (off + n) rest r' → EncRel ps off (.other k n :: rest) (.other k n :: r')
  | pssh {off n rest r'} : EncRel ps (off + n) rest r' → EncRel ps off (.pssh n :: rest) (.pssh n :: r')
  | traf {off t t' rest r'} : EncTraf ps off t t' → EncRel ps (off + t'.size) rest r' →
      EncRel ps off (.traf t :: rest) (.traf t' :: r')

theorem encChildren_rel {ps : Nat → Option (Scheme × List Nat)} {l : List MoofChild} {off : Nat} {l' : List MoofChild}
    (h : encChildren ps l off = some l') : EncRel ps off l l' := by
  fun_induction encChildren ps l off generalizing l'
  case case1 => cases h; exact .nil
  -- the refusing branches: sample counts differ, `auxBoxes` fails, not exactly one trun
  case case3 | case4 | case6 => cases h
  all_goals obtain ⟨r', hr', rfl⟩ := Option.map_eq_some_iff.1 h
  · -- a traf without parameters stays
    next hps ih => exact .traf (by simp [EncTraf, hps]) (ih hr')
  · -- the accepting branch for a traf with parameters: one trun `r`, one count per sample, `auxBoxes = some (a, s)`
    next t _ _ sc subs hps r hr hlen a s ha _ ih =>
    exact .traf (by simp only [EncTraf, hps]; exact ⟨r, a, s, hr, Decidable.of_not_not hlen, ha, rfl⟩) (ih hr')
  · -- a child that is no traf stays
    next c _ _ hc ih =>
    cases c with
    | other k n => exact .other (ih hr')
    | pssh n => exact .pssh (ih hr')
    | traf t => exact (hc t rfl).elim

theorem EncTraf.eq_or {ps : Nat → Option (Scheme × List Nat)} {p : Nat} {t t' : Traf} (h : EncTraf ps p t t') :
    t' = t ∨ ∃ a o s, t' = addProt a o s t := by
  unfold EncTraf at h
  split at h
  · exact .inl h
  · obtain ⟨_, a, s, _, _, _, rfl⟩ := h
    exact .inr ⟨a, _, s, rfl⟩

theorem encryptAll_some {ps : Nat → Option (Scheme × List Nat)} {f g : Frag} (h : encryptAll ps f = some g) :
    ∃ l', encChildren ps f.children 8 = some l' ∧ g = { f with children := l' } := by
  obtain ⟨l', hl, rfl⟩ := Option.map_eq_some_iff.1 h
  exact ⟨l', hl, rfl⟩

/-- the trafs of a moof with their byte offsets from the start of the moof box (`off` = offset of the first child) -/
def trafsAt : List MoofChild → Nat → List (Nat × Traf)
  | [], _ => []
  | .traf t :: rest, off => (off, t) :: trafsAt rest (off + t.size)
  | c :: rest, off => trafsAt rest (off + c.size)

/-- element-wise relation between two lists of the same length -/
inductive AllTwo {α β : Type} (R : α → β → Prop) : List α → List β → Prop
  | nil : AllTwo R [] []
  | cons {a b l l'} : R a b → AllTwo R l l' → AllTwo R (a :: l) (b :: l')

theorem encChildren_trafs {ps : Nat → Option (Scheme × List Nat)} {l l' : List MoofChild} {off : Nat}
    (h : encChildren ps l off = some l') :
    AllTwo (fun t (pt : Nat × Traf) => EncTraf ps pt.1 t pt.2) (trafsOf l) (trafsAt l' off) := by
  replace h := encChildren_rel h
  induction h with
  | nil => exact .nil
  | other _ ih | pssh _ ih => exact ih
  | traf ht _ ih => exact .cons ht ih

/-- the children of a traf with their byte offsets (`off` = offset of the first child) -/
def childOffsets : List TrafChild → Nat → List (Nat × TrafChild)
  | [], _ => []
  | c :: rest, off => (off, c) :: childOffsets rest (off + c.size)

theorem childOffsets_append (a b : List TrafChild) (off : Nat) :
    childOffsets (a ++ b) off = childOffsets a off ++ childOffsets b (off + sizes a) := by
  fun_induction childOffsets a off <;> simp_all [childOffsets, Nat.add_assoc]

theorem senc_position (a : Saiz) (o : Int) (s : Senc) (t : Traf) (p : Nat) :
    (p + 8 + sizes t.children + a.size + 20, TrafChild.senc s) ∈ childOffsets (addProt a o s t).children (p + 8) := by
  simp only [addProt]
  rw [childOffsets_append]
  simp [childOffsets, TrafChild.size, saio_one_size]

theorem msizes_encChildren_le {ps : Nat → Option (Scheme × List Nat)} {l l' : List MoofChild} {off : Nat}
    (h : encChildren ps l off = some l') : msizes l ≤ msizes l' := by
  replace h := encChildren_rel h
  induction h with
  | nil => exact Nat.le_refl _
  | other _ ih | pssh _ ih => simpa using ih
  | traf ht _ ih =>
    -- the traf is as it was, or `addProt` has appended three boxes to its children: it is no shorter
    rcases ht.eq_or with rfl | ⟨a, o, s, rfl⟩ <;> simp [MoofChild.size, Traf.size, addProt] <;> omega

theorem trunsOf_append (a b : List TrafChild) : trunsOf (a ++ b) = trunsOf a ++ trunsOf b := by
  fun_induction trunsOf a <;> simp_all [trunsOf]

theorem truns_addProt (a : Saiz) (o : Int) (s : Senc) (t : Traf) : (addProt a o s t).truns = t.truns := by
  simp [Traf.truns, addProt, trunsOf_append, trunsOf]

theorem sencWalk_append (a b : List TrafChild) (off acc : Nat) :
    sencWalk (a ++ b) off acc = sencWalk b (off + sizes a) (sencWalk a off acc) := by
  fun_induction sencWalk a off acc <;> simp_all [sencWalk, Nat.add_assoc]

theorem sencWalk_addProt (a : Saiz) (x : Int) (s : Senc) (t : Traf) (off : Nat) :
    sencWalk (addProt a x s t).children off 0 = off + sizes t.children + a.size + 20 + 16 := by
  simp only [addProt]
  rw [sencWalk_append]
  simp [sencWalk, TrafChild.size, saio_one_size]

theorem encChildren_noTraf (ps : Nat → Option (Scheme × List Nat)) (l : List MoofChild) (off : Nat)
    (h : trafsOf l = []) : encChildren ps l off = some l := by
  fun_induction trafsOf l generalizing off <;> simp_all [encChildren]

theorem mapTrafs_noTraf (g : Traf → Traf) (l : List MoofChild) (h : trafsOf l = []) : mapTrafs g l = l := by
  fun_induction trafsOf l <;> simp_all [mapTrafs]

/-- with one traf, `encryptAll` appends the boxes `EncryptFragment` appends, and the offset walk of `EncryptFragment`
    finds the position the general formula uses (whatever offset `x` the saio holds during the walk) -/
theorem encChildren_one (sc : Scheme) (subs : List Nat) (t : Traf) (x : Int) (l : List MoofChild) (off : Nat)
    (h : trafsOf l = [t]) :
    encChildren (fun _ => some (sc, subs)) l off =
      (trafAux sc subs t).map fun p =>
        mapTrafs (addProt p.1 ((sencDataOffset (mapTrafs (addProt p.1 x p.2) l) off : Nat) : Int) p.2) l := by
  fun_induction trafsOf l generalizing off
  · cases h
  · next t0 rest _ =>
    obtain ⟨rfl, hrest⟩ := List.cons.inj h
    rw [encChildren]
    refine (trafAux_bind sc subs t0 _).trans ?_
    simp only [mapTrafs, sencDataOffset, encChildren_noTraf _ _ _ hrest,
      mapTrafs_noTraf _ _ hrest, sencWalk_addProt, Option.map_some]
    cases trafAux sc subs t0 <;> rfl
  · -- a child in front that is no traf: `encChildren` and the offset walk of `sencDataOffset` both step over it by moving
    -- `off` on by its size, so both sides are the induction hypothesis at the shifted offset with the child put in front
    simp_all [encChildren, mapTrafs, sencDataOffset, Option.map_map]
    rfl

theorem encryptFrag_eq_encryptAll (sc : Scheme) (subs : List Nat) (f : Frag) (t : Traf) (h : f.trafs = [t]) :
    encryptFrag sc subs f = encryptAll (fun _ => some (sc, subs)) f := by
  unfold encryptFrag encryptAll
  rw [h, encChildren_one sc subs t (-1) _ _ h, Option.map_map]
  exact (trafAux_bind sc subs t _).trans (Option.map_eq_bind ..).symm

theorem encryptFrag_some {sc : Scheme} {subs : List Nat} {f g : Frag} (h : encryptFrag sc subs f = some g) :
    ∃ t r, f.trafs = [t] ∧ t.truns = [r] ∧ encryptAll (fun _ => some (sc, subs)) f = some g := by
  have h' := h
  unfold encryptFrag at h'
  split at h'
  · next t ht =>
    split at h'
    · next r hr => exact ⟨t, r, ht, hr, encryptFrag_eq_encryptAll sc subs f t ht ▸ h⟩
    · cases h'
  · cases h'

theorem offsetsUnmanaged_of_length_le_one (ts : List Trun) (h : ts.length ≤ 1) :
    offsetsUnmanaged ts = false := by
  unfold offsetsUnmanaged
  have : ¬ ts.length > 1 := by omega
  simp [this]

theorem allTruns_one {l : List MoofChild} {t : Traf} {r : Trun} (h : trafsOf l = [t]) (hr : t.truns = [r]) :
    allTrunsOf l = [r] := by
  simp [allTrunsOf, h, hr]

/-- **CENC well-formedness of what `EncryptFragment` produces.**  The one traf (at byte `p` of the moof) keeps its
    children and gets saiz, saio, senc appended in this order; the saio holds one offset, and 16 bytes before it the senc
    box starts (so it is the offset of the first IV / first entry); senc sample count = trun sample count = number of
    sub-sample maps; the saiz entries (table or default) are the per-sample auxiliary information sizes
    IV + (2 + 6·n when sub-samples are used), each ≤ 255; the senc box is 16 bytes of header plus exactly these sizes. -/
theorem encryptFrag_wellformed {sc : Scheme} {subs : List Nat} {f g : Frag} (h : encryptFrag sc subs f = some g) :
    ∃ t r a s p q,
      f.trafs = [t] ∧ t.truns = [r] ∧ auxBoxes sc subs = some (a, s) ∧
      trafsAt g.children 8 = [(p, addProt a ((q + 16 : Nat) : Int) s t)] ∧
      (q, TrafChild.senc s) ∈ childOffsets (addProt a ((q + 16 : Nat) : Int) s t).children (p + 8) ∧
      s.sampleCount = r.sampleSizes.length ∧ subs.length = r.sampleSizes.length ∧
      s.size = 16 + (subs.map (sampleInfoSize sc.ivLen)).sum ∧
      (∀ i, (hi : i < subs.length) → a.entry i = sampleInfoSize sc.ivLen subs[i] ∧ sampleInfoSize sc.ivLen subs[i] ≤ 255) ∧
      a.sampleCount = (if sc.ivLen = 0 ∧ (∀ n ∈ subs, n = 0) then 0 else r.sampleSizes.length) := by
  obtain ⟨t, r, ht, hr, h⟩ := encryptFrag_some h
  obtain ⟨l', henc', rfl⟩ := encryptAll_some h
  have hall := encChildren_trafs henc'
  rw [show trafsOf f.children = [t] from ht] at hall
  generalize htl : trafsAt l' 8 = tl at hall
  obtain _ | @⟨_, ⟨p, t'⟩, _, _, hR, hrest⟩ := hall
  cases hrest
  simp only [EncTraf] at hR
  obtain ⟨r', a, s, hr', hlen, haux, rfl⟩ := hR
  obtain rfl : r = r' := by simpa [hr] using hr'
  have hb := auxBoxes_spec haux
  exact ⟨t, r, a, s, p, p + 8 + sizes t.children + a.size + 20, ht, hr, haux, rfl, senc_position a _ s t p,
    by rw [hb.sencCount, hlen], hlen, hb.sencSize, fun i hi => ⟨hb.entry i hi, hb.entryLe _ (List.getElem_mem hi)⟩,
    by rw [hb.saizCount, hlen]⟩

end Mp4ff.Protect
