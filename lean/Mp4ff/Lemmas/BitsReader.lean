import Mp4ff.Lemmas.BitsBasic
/-!
The plain bit reader (`bits.Reader`) through `BR.abs`, the bits pending followed by the bits of the bytes not yet taken:
`Read(k)` returns the first `k` of them and leaves the rest (`BR.read_spec`), for `k ≤ 56`: fewer than 8 bits are pending
between calls, and the refill must not push any out of the 64-bit accumulator (`BR.fill_spec`). Decoders are specified by
`Reads`.
-/
namespace Mp4ff.Bits

/-- what the refill before a read of `k` bits makes of the accumulator `(n, v)`, the bytes `rest` behind it and the byte
    counter `nread`: enough bits, not a byte more, the same bit string -/
structure BR.Filled (k n v nread : Nat) (rest : Bytes) (n' v' nread' : Nat) (rest' : Bytes) : Prop where
  enough : k ≤ n'
  surplus : n' < k + 8
  acc_lt : v' < 2 ^ n'
  bytes : IsBytes rest'
  bits : lowBits n' v' ++ bitsOfBytes rest' = lowBits n v ++ bitsOfBytes rest
  count : nread' + rest'.length = nread + rest.length

/-- `hk`: the accumulator is a 64-bit word; with fewer than `k` (so at most 55) bits pending, the byte shifted in makes
    at most 63, so `v << 8` loses nothing. `hfuel`: a round adds 8 bits, so `fuel` rounds reach `k`. -/
theorem BR.fill_spec {k : Nat} (hk : k ≤ 56) (fuel : Nat) {n v : Nat} (nread : Nat) {rest : Bytes}
    (hv : v < 2 ^ n) (hn : n < k + 8) (hrest : IsBytes rest)
    (havail : k ≤ n + 8 * rest.length) (hfuel : k ≤ n + 8 * fuel) :
    ∃ n' v' nread' rest', BR.fill k fuel n v nread rest = some (n', v', nread', rest') ∧
      BR.Filled k n v nread rest n' v' nread' rest' := by
  induction fuel generalizing n v nread rest with
  | zero =>
    have hkn : k ≤ n := hfuel
    have : ¬ (n < k) := Nat.not_lt.2 hkn
    exact ⟨n, v, nread, rest, by simp [BR.fill, this],
      { enough := hkn, surplus := hn, acc_lt := hv, bytes := hrest, bits := rfl, count := rfl }⟩
  | succ fuel ih =>
    unfold BR.fill
    by_cases hnk : n < k
    · simp only [hnk, if_true]
      cases rest with
      | nil => exact absurd (show k ≤ n from havail) (Nat.not_le.2 hnk)
      | cons b rest' =>
        simp only
        have hb : b < 2 ^ 8 := hrest b (by simp)
        rw [shl_mod_W64 hv (by omega)]
        have hv1 : (v <<< 8) ||| b < 2 ^ (n + 8) :=
          Nat.or_lt_two_pow (shl_lt hv) (Nat.lt_of_lt_of_le hb (Nat.pow_le_pow_right (by decide) (Nat.le_add_left 8 n)))
        simp only [List.length_cons] at havail
        obtain ⟨n', v', nread', rest'', he, hf⟩ :=
          ih (nread + 1) hv1 (Nat.add_lt_add_right hnk 8) hrest.tail (by omega) (by omega)
        refine ⟨n', v', nread', rest'', he,
          { hf with bits := ?_, count := by rw [hf.count, List.length_cons]; omega }⟩
        rw [hf.bits, shl_or_bits hb, bitsOfBytes, List.append_assoc]
    · simp only [hnk, if_false]
      exact ⟨n, v, nread, rest, rfl,
        { enough := Nat.not_lt.1 hnk, surplus := hn, acc_lt := hv, bytes := hrest, bits := rfl, count := rfl }⟩

/-- taking `k` bits off an accumulator that holds `n ≥ k` bits in front of `R`: what `Read` keeps and what it returns -/
theorem acc_split {n v k : Nat} (hk : k ≤ n) (hv : v < 2 ^ n) (R : List Bool) :
    lowBits (n - k) (v &&& mask (n - k)) ++ R = (lowBits n v ++ R).drop k ∧
    lowBits k (v >>> (n - k)) = (lowBits n v ++ R).take k ∧ v >>> (n - k) < 2 ^ k := by
  have hs : lowBits n v ++ R = lowBits k (v >>> (n - k)) ++ (lowBits (n - k) (v &&& mask (n - k)) ++ R) := by
    rw [lowBits_and_mask (Nat.le_refl _), ← List.append_assoc, ← lowBits_append, Nat.add_sub_cancel' hk]
  refine ⟨?_, ?_, ?_⟩
  · rw [hs, List.drop_left' (lowBits_length _ _)]
  · rw [hs, List.take_left' (lowBits_length _ _)]
  · rw [Nat.shiftRight_eq_div_pow]
    apply Nat.div_lt_of_lt_mul
    rw [← Nat.pow_add, Nat.sub_add_cancel hk]
    exact hv

theorem BR.read_spec (r : BR) (k : Nat) (hr : r.Inv) (hk : k ≤ 56) (havail : k ≤ r.abs.length) :
    (r.read k).1.Inv ∧ (r.read k).1.abs = r.abs.drop k ∧
      lowBits k (r.read k).2 = r.abs.take k ∧ (r.read k).2 < 2 ^ k ∧
      (r.read k).1.nread + (r.read k).1.rest.length = r.nread + r.rest.length := by
  obtain ⟨hn, hv, hrest, herr⟩ := hr
  have hlen : k ≤ r.n + 8 * r.rest.length := by simpa [BR.abs] using havail
  -- `BR.read` bounds Go's refill loop by `k / 8 + 1` rounds: each adds 8 bits, so that many exceed `k`
  obtain ⟨n', v', nread', rest', he, hf⟩ := BR.fill_spec hk (k / 8 + 1) r.nread hv (by omega) hrest hlen (by omega)
  obtain ⟨hd, ht, hlt⟩ := acc_split hf.enough hf.acc_lt (bitsOfBytes rest')
  rw [hf.bits] at hd ht
  unfold BR.read
  simp only [herr, Bool.false_eq_true, if_false, he]
  exact ⟨⟨Nat.sub_lt_left_of_lt_add hf.enough hf.surplus, and_mask_lt _ _, hf.bytes, rfl⟩,
    hd, ht, hlt, hf.count⟩

theorem BR.Inv.err {r : BR} (h : r.Inv) : r.err = false := h.2.2.2

theorem BR.init_spec (k : Nat) {bs : Bytes} (h : IsBytes bs) :
    ({ nread := k, rest := bs } : BR).Inv ∧ ({ nread := k, rest := bs } : BR).abs = bitsOfBytes bs :=
  ⟨⟨Nat.zero_lt_succ 7, Nat.zero_lt_one, h, rfl⟩, rfl⟩

/-- a decoder as the model writes them: reader in, reader and value out. The reader `ρ` is the plain `BR` (`Dec`) or
    the un-escaping `ER` (`ER.Dec`). -/
abbrev DecOn (ρ α : Type) := ρ → ρ × α

abbrev Dec := DecOn BR

namespace Dec

/-- `let x ← d; rest` is the model's `let (r, x) := d r; rest`. Scoped, because `DecOn ρ α` is a plain function type. -/
scoped instance {ρ : Type} : Monad (DecOn ρ) where
  pure a := fun r => (r, a)
  bind d f := fun r => f (d r).2 (d r).1

theorem pure_apply {ρ α : Type} (a : α) (r : ρ) : (pure a : DecOn ρ α) r = (r, a) := rfl

theorem bind_apply {ρ α β : Type} (d : DecOn ρ α) (f : α → DecOn ρ β) (r : ρ) : (d >>= f) r = f (d r).2 (d r).1 := rfl

theorem ite_apply {ρ α : Type} (c : Prop) [Decidable c] (d e : DecOn ρ α) (r : ρ) :
    (if c then d else e) r = if c then d r else e r := by split <;> rfl

end Dec
open Dec

/-- `d`, run on a reader whose pending bits begin with `bs`, returns `a`, leaves exactly what follows `bs` and has
    counted the bytes it took. (For a `d` that is a `fun`, the equation comes out as `(fun r => …) r = …`.)
    A decoder without early exit is restated as a `do` block over `(·.read k)`, `readMod k M` and sub-decoders
    (`decodeClockTS_eq` in Lemmas/SeiTyped.lean); its specification is then one `.bind` per syntax element, the leaves
    `.pure rfl`. One that can fail in the middle (`Option`, `Except`) is stepped through: per element
    `obtain ⟨r', e, i, a, -⟩ := reads_field … i₀ a₀`, and the equations `e` rewrite the decoder at the end
    (`asc_roundtrip` in Lemmas/Aac.lean). -/
def Reads {α : Type} (d : Dec α) (bs : List Bool) (a : α) : Prop :=
  ∀ ⦃r : BR⦄ ⦃tail : List Bool⦄, r.Inv → r.abs = bs ++ tail →
    ∃ r', d r = (r', a) ∧ r'.Inv ∧ r'.abs = tail ∧ r'.nread + r'.rest.length = r.nread + r.rest.length

/-- `a`: the record as the decoder builds it; `b`: the expected one -/
theorem Reads.pure {α : Type} {a b : α} (h : a = b) : Reads (pure a) [] b :=
  fun r _ hr habs => ⟨r, by rw [h]; rfl, hr, habs, rfl⟩

theorem Reads.bind {α β : Type} {d : Dec α} {f : α → Dec β} {bs cs : List Bool} {a : α} {b : β}
    (hd : Reads d bs a) (hf : Reads (f a) cs b) : Reads (d >>= f) (bs ++ cs) b := by
  intro r tail hr habs
  rw [List.append_assoc] at habs
  obtain ⟨r1, e1, i1, a1, n1⟩ := hd hr habs
  obtain ⟨r2, e2, i2, a2, n2⟩ := hf i1 a1
  exact ⟨r2, by rw [Dec.bind_apply, e1, e2], i2, a2, n2.trans n1⟩

theorem reads_field {k v : Nat} (hv : v < 2 ^ k) (hk : k ≤ 56) : Reads (fun r => r.read k) (lowBits k v) v := by
  intro r tail hr habs
  obtain ⟨i, hd, ht, hlt, n⟩ := BR.read_spec r k hr hk (by rw [habs]; simp)
  rw [habs, List.drop_left' (lowBits_length k v)] at hd
  rw [habs, List.take_left' (lowBits_length k v)] at ht
  exact ⟨(r.read k).1, by rw [← eq_of_lowBits_eq hlt hv ht], i, hd, n⟩

/-- `uintN(r.Read(k))`: a read cast to a narrower type, `M = 2^N`. An `abbrev`: when `simp` unfolds a `def` inside the
    condition of an `if`, the `Decidable` instance stays behind and `Dec.ite_apply` no longer applies. -/
abbrev readMod (k M : Nat) : Dec Nat := fun r => ((r.read k).1, (r.read k).2 % M)

theorem reads_mod {k v M : Nat} (hv : v < 2 ^ k) (hk : k ≤ 56 := by decide) (hM : 2 ^ k ≤ M := by decide) :
    Reads (readMod k M) (lowBits k v) v := by
  intro r tail hr habs
  obtain ⟨r', e, h⟩ := reads_field hv hk hr habs
  exact ⟨r', by rw [readMod, show r.read k = _ from e, Nat.mod_eq_of_lt (Nat.lt_of_lt_of_le hv hM)], h⟩

/-- a `go n r acc` loop that decodes `n` records with `d` reads back the fields of a list of records -/
theorem reads_loop {α : Type} {d : Dec α} {go : Nat → BR → List α → BR × List α}
    (h0 : ∀ r acc, go 0 r acc = (r, acc))
    (hs : ∀ n r acc, go (n + 1) r acc = go n (d r).1 (acc ++ [(d r).2]))
    {f : α → List (Nat × Nat)} (cs : List α) (hd : ∀ c ∈ cs, Reads d (fieldBits (f c)) c) :
    ∀ acc, Reads (fun r => go cs.length r acc) (fieldBits (cs.flatMap f)) (acc ++ cs) := by
  induction cs with
  | nil => intro acc r tail hr habs; exact ⟨r, by simp [h0], hr, habs, rfl⟩
  | cons c cs ih =>
    intro acc r tail hr habs
    rw [List.flatMap_cons, fieldBits_append, List.append_assoc] at habs
    obtain ⟨r1, e1, i1, a1, n1⟩ := hd c (by simp) hr habs
    obtain ⟨r2, e2, i2, a2, n2⟩ := ih (fun c h => hd c (by simp [h])) (acc ++ [c]) i1 a1
    exact ⟨r2, by simp only [List.length_cons, hs, e1, e2, List.append_assoc, List.singleton_append], i2, a2,
      n2.trans n1⟩

theorem reads_all (ops : List (Nat × Nat)) (h : FieldsOK ops) :
    Reads (fun r => r.readAll (ops.map (·.1))) (fieldBits ops) (ops.map (·.2)) := by
  induction ops with
  | nil => exact .pure rfl
  | cons kv ops ih =>
    intro r tail hr habs
    obtain ⟨k, v⟩ := kv
    rw [fieldBits, List.append_assoc] at habs
    have hkv := h (k, v) (by simp)
    obtain ⟨r1, e1, i1, a1, n1⟩ := reads_field hkv.2.2 hkv.2.1 hr habs
    obtain ⟨r2, e2, i2, a2, n2⟩ := ih (fun o ho => h o (by simp [ho])) i1 a1
    exact ⟨r2, by simp only [List.map_cons, BR.readAll, e1, e2], i2, a2, n2.trans n1⟩

end Mp4ff.Bits
