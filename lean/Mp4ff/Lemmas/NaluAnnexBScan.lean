import Mp4ff.Lemmas.NaluWalk
/-! Start-code scanning and trimming on well-formed Annex B streams, `units : List (Nat × Bytes)` being (start-code length,
NAL unit).  `scanL` is the scanning loop as a recursion on the bytes still ahead: it finds one entry at a start code and
none inside a well-formed unit, so on `annexB units` the scanner finds the start codes laid down (`scanByte_annexB`).
Trimming back from a start code ends at the end of the unit in front (`trimEnd_zeros`). -/
namespace Mp4ff.Nalu

theorem byteAt_append_left (pre t : Bytes) (j : Nat) (h : j < pre.length) :
    byteAt (pre ++ t) j = byteAt pre j := by
  simp [byteAt, List.getD_eq_getElem?_getD, List.getElem?_append_left h]

theorem isSC_iff (s : Bytes) (i : Nat) :
    isSC s i = true ↔ byteAt s i = 0 ∧ byteAt s (i + 1) = 0 ∧ byteAt s (i + 2) = 1 := by
  simp [isSC, and_assoc]

/-- window test on a list: `a :: t` starts with 00 00 01 and has at least 4 bytes -/
def scAtHead (a : Nat) (t : Bytes) : Bool :=
  a == 0 && byteAt t 0 == 0 && byteAt t 1 == 1 && decide (3 ≤ t.length)

theorem isSC_eq_scAtHead (s pre t : Bytes) (a : Nat) (hs : s = pre ++ a :: t) :
    (decide (pre.length + 3 < s.length) && isSC s pre.length) = scAtHead a t := by
  subst hs
  have hd : decide (pre.length + 3 < (pre ++ a :: t).length) = decide (3 ≤ t.length) := by
    apply decide_eq_decide.mpr; simp; omega
  rw [isSC, scAtHead, hd, ← Nat.add_zero pre.length]
  simp only [Nat.add_assoc, byteAt_append_right, Nat.zero_add]
  rw [Bool.and_comm]; rfl

/-- list-recursive form of `scanFrom` -/
def scanL : Bool → Nat → Bytes → List SC
  | _, _, [] => []
  | p, off, a :: t => (if scAtHead a t then [⟨if p then 4 else 3, off + 3⟩] else []) ++ scanL (a == 0) (off + 1) t

theorem range'_sub_of_lt {n i : Nat} (h : i < n) : List.range' i (n - i) = i :: List.range' (i + 1) (n - (i + 1)) := by
  rw [Nat.sub_add_eq, ← List.range'_succ, Nat.sub_add_cancel (Nat.sub_pos_of_lt h)]

theorem scanFrom_step (s : Bytes) (i0 : Nat) :
    scanFrom s i0 = (if (decide (i0 + 3 < s.length) && isSC s i0) then
        [⟨if i0 ≥ 1 ∧ byteAt s (i0 - 1) = 0 then 4 else 3, i0 + 3⟩] else []) ++ scanFrom s (i0 + 1) := by
  unfold scanFrom
  by_cases h : i0 + 3 < s.length
  · have h' : i0 < s.length - 3 := Nat.lt_sub_of_add_lt h
    rw [range'_sub_of_lt h', List.filterMap_cons, decide_eq_true h, Bool.true_and]
    cases isSC s i0 <;> rfl
  · have h' : s.length - 3 ≤ i0 := Nat.sub_le_of_le_add (Nat.not_lt.1 h)
    rw [Nat.sub_eq_zero_of_le h', Nat.sub_eq_zero_of_le (Nat.le_succ_of_le h'), decide_eq_false h]; rfl

/-- `p` says whether the byte in front of `t` is 00 (which makes a start code found at once a 4-byte one) -/
theorem scanFrom_eq_scanL : ∀ (t pre s : Bytes) (p : Bool), s = pre ++ t →
    (pre.length ≥ 1 ∧ byteAt s (pre.length - 1) = 0 ↔ p = true) → scanFrom s pre.length = scanL p pre.length t
  | [], pre, s, p, hs, _ => by
    have : s.length - 3 - pre.length = 0 := by simp [hs]
    simp [scanFrom, scanL, this]
  | a :: t, pre, s, p, hs, hp => by
    have ha : byteAt s pre.length = a := by rw [hs, ← Nat.add_zero pre.length, byteAt_append_right]; rfl
    have ih := scanFrom_eq_scanL t (pre ++ [a]) s (a == 0) (by simp [hs])
      (by rw [List.length_append, List.length_singleton, Nat.add_sub_cancel, ha]; simp)
    rw [List.length_append, List.length_singleton] at ih
    rw [scanFrom_step, isSC_eq_scAtHead s pre t a hs, scanL, ih]
    simp only [hp]

theorem EmulationFree.tail {a : Nat} {n : Bytes} (h : EmulationFree (a :: n)) : EmulationFree n := by
  match n, h with
  | [], _ | [_], _ => simp [EmulationFree]
  | _ :: _ :: _, h => exact h.2

theorem scanL_unit : ∀ (n : Bytes), n ≠ [] → EmulationFree n → n.getLast? ≠ some 0 →
    ∀ (tail : Bytes) (p : Bool) (off : Nat),
    scanL p off (n ++ tail) = scanL false (off + n.length) tail := by
  intro n
  induction n with
  | nil => intro h; exact absurd rfl h
  | cons a n' ih =>
    intro _ hef hl tail p off
    have hsc : scAtHead a (n' ++ tail) = false := by
      refine Bool.eq_false_iff.2 fun h => ?_
      simp only [scAtHead, Bool.and_eq_true, beq_iff_eq] at h
      obtain ⟨⟨⟨ha, hb⟩, hc⟩, -⟩ := h
      rcases n' with _ | ⟨b, _ | ⟨c, m⟩⟩
      · exact hl (congrArg some ha)
      · exact hl (congrArg some hb)
      · exact hef.1 ⟨ha, hb, Nat.le_succ_of_le (Nat.le_of_eq hc)⟩
    rw [List.cons_append, scanL, hsc, if_neg Bool.false_ne_true, List.nil_append, List.length_cons,
      Nat.add_comm n'.length, ← Nat.add_assoc]
    cases n' with
    | nil =>
      have ha : a ≠ 0 := fun h => hl (congrArg some h)
      rw [beq_false_of_ne ha]; rfl
    | cons b m =>
      exact ih (List.cons_ne_nil _ _) (EmulationFree.tail hef) (by rwa [List.getLast?_cons_cons] at hl) tail _ _

/-- at a unit boundary (the unit in front does not end in 00) a start code of either length is found once, with its
    length: the 4-byte one is a 00, not the start of a window, in front of the 3-byte one -/
theorem scanL_startCode (k : Nat) (hk : k = 3 ∨ k = 4) (off : Nat) (m R : Bytes) (hm : m ≠ []) :
    scanL false off (startCode k ++ (m ++ R)) = ⟨k, off + k⟩ :: scanL false (off + k) (m ++ R) := by
  cases m with
  | nil => exact absurd rfl hm
  | cons x m' => rcases hk with rfl | rfl <;> rfl

def UnitsOK (units : List (Nat × Bytes)) : Prop := ∀ u ∈ units, (u.1 = 3 ∨ u.1 = 4) ∧ WFNalu u.2

theorem UnitsOK.tail {u : Nat × Bytes} {rest : List (Nat × Bytes)} (h : UnitsOK (u :: rest)) : UnitsOK rest :=
  fun v hv => h v (List.mem_cons_of_mem _ hv)

/-- expected start-code list of `annexB units` laid out from offset `off` -/
def expectedSCs : Nat → List (Nat × Bytes) → List SC
  | _, [] => []
  | off, (k, n) :: rest => ⟨k, off + k⟩ :: expectedSCs (off + k + n.length) rest

theorem scanL_annexB : ∀ (units : List (Nat × Bytes)), UnitsOK units → ∀ off,
    scanL false off (annexB units) = expectedSCs off units
  | [], _, _ => rfl
  | (k, n) :: rest, h, off => by
    obtain ⟨hk, hne, _, hef, hl⟩ := h (k, n) (List.mem_cons_self ..)
    rw [annexB, List.append_assoc, scanL_startCode k hk off n _ hne, scanL_unit n hne hef hl,
      scanL_annexB rest (UnitsOK.tail h), expectedSCs]

theorem scanByte_annexB (units : List (Nat × Bytes)) (h : UnitsOK units) :
    scanByte (annexB units) = expectedSCs 0 units :=
  (scanFrom_eq_scanL (annexB units) [] _ false rfl (by simp)).trans (scanL_annexB units h 0)

theorem startCode3 : startCode 3 = [0, 0, 1] := by simp [startCode]
theorem startCode4 : startCode 4 = [0, 0, 0, 1] := by simp [startCode]

theorem startCode_length (k : Nat) (hk : k = 3 ∨ k = 4) : (startCode k).length = k := by
  rcases hk with rfl | rfl <;> rfl

theorem byteAt_last_ne_zero (n : Bytes) (hne : n ≠ []) (hl : n.getLast? ≠ some 0) :
    byteAt n (n.length - 1) ≠ 0 := by
  rw [List.getLast?_eq_getElem?] at hl
  have hlen := List.length_pos_iff.mpr hne
  have hlt : n.length - 1 < n.length := by omega
  rw [List.getElem?_eq_getElem hlt] at hl
  simp only [byteAt, List.getD_eq_getElem?_getD, List.getElem?_eq_getElem hlt, Option.getD_some]
  intro h; exact hl (by rw [h])

/-- trimming back over the zeros in front of a start code ends at the end of the unit before them -/
theorem trimEnd_zeros (s pre0 nprev : Bytes) (hne : nprev ≠ []) (hl : nprev.getLast? ≠ some 0) :
    ∀ (z : Nat) (R : Bytes), s = pre0 ++ (nprev ++ (List.replicate z 0 ++ R)) →
    trimEnd s pre0.length (pre0.length + nprev.length + z) = pre0.length + nprev.length
  | 0, R, hs => by
    have hlen := List.length_pos_iff.mpr hne
    have hb : byteAt s (pre0.length + (nprev.length - 1)) ≠ 0 := by
      rw [hs, byteAt_append_right, byteAt_append_left _ _ _ (Nat.sub_lt hlen Nat.one_pos)]
      exact byteAt_last_ne_zero nprev hne hl
    have e : pre0.length + nprev.length = pre0.length + (nprev.length - 1) + 1 := by
      rw [Nat.add_assoc, Nat.sub_add_cancel hlen]
    rw [Nat.add_zero, e, trimEnd, if_neg fun h => hb h.2]
  | z + 1, R, hs => by
    have hlen := List.length_pos_iff.mpr hne
    have hs' : s = pre0 ++ (nprev ++ (List.replicate z 0 ++ 0 :: R)) := by
      rw [hs, List.replicate_succ', List.append_assoc]; rfl
    have hb : byteAt s (pre0.length + nprev.length + z) = 0 := by
      have := byteAt_append_right (pre0 ++ nprev ++ List.replicate z 0) (0 :: R) 0
      simp only [List.length_append, List.length_replicate, Nat.add_zero, List.append_assoc] at this
      rw [hs', Nat.add_assoc, this]; rfl
    rw [← Nat.add_assoc, trimEnd, if_pos ⟨Nat.lt_add_right z (Nat.lt_add_of_pos_right hlen), hb⟩]
    exact trimEnd_zeros s pre0 nprev hne hl z _ hs'

end Mp4ff.Nalu
