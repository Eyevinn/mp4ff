import Mp4ff.Model.Cenc
import Mp4ff.Lemmas.NaluLenPrefixedSpec
import Mp4ff.Lemmas.Basics
/-!
`appendProtectRange`, `maskOf`, and the sub-sample walk `protectRanges` for both schemes at once: the loop is reduced
to two rewriting equations (`protectRanges_go_step`, `protectRanges_go_end`) in terms of the protected length `protOf`
of a unit, which is all the mask induction `protectRanges_go_spec` sees.  Order facts in the loop lemmas are given as
terms: `omega` is slow there.
-/
namespace Mp4ff.Cenc
open Mp4ff.Nalu

theorem maskOf_append (a b : List SubSample) : maskOf (a ++ b) = maskOf a ++ maskOf b := by
  induction a with
  | nil => rfl
  | cons r rest ih => simp only [List.cons_append, maskOf, ih, List.append_assoc]

theorem appendProtectRange_ext (l : List SubSample) (c p : Nat) :
    ∃ ext, appendProtectRange l c p = l ++ ext ∧ (ext.map (·.clear)).sum = c ∧ (ext.map (·.prot)).sum = p ∧
      (∀ r ∈ ext, r.clear ≤ 65535 ∧ (r.prot = 0 ∨ r.prot = p)) ∧
      maskOf ext = List.replicate c false ++ List.replicate p true := by
  induction l, c using appendProtectRange.induct with
  | case1 l c hc ih =>
    obtain ⟨ext, he, hclear, hprot, hall, hmask⟩ := ih
    rw [appendProtectRange, dif_pos hc]
    refine ⟨⟨65535, 0⟩ :: ext, by rw [he, List.append_assoc]; rfl, ?_, ?_, ?_, ?_⟩
    · simp only [List.map_cons, List.sum_cons, hclear]; exact Nat.add_sub_cancel' (Nat.le_of_succ_le hc)
    · simp only [List.map_cons, List.sum_cons, hprot, Nat.zero_add]
    · intro r hr
      rcases List.mem_cons.mp hr with rfl | hr
      · exact ⟨Nat.le_refl _, Or.inl rfl⟩
      · exact hall r hr
    · simp only [maskOf, hmask, List.replicate_zero, List.append_nil]
      rw [← List.append_assoc, List.replicate_append_replicate, Nat.add_sub_cancel' (Nat.le_of_succ_le hc)]
  | case2 l c hc =>
    rw [appendProtectRange, dif_neg hc]
    refine ⟨[⟨c, p⟩], rfl, by simp, by simp, ?_, by simp [maskOf]⟩
    intro r hr
    rcases List.mem_singleton.mp hr with rfl
    exact ⟨Nat.le_of_lt_succ (Nat.lt_of_not_le hc), Or.inr rfl⟩

/-- protected bytes of one NAL unit under either scheme (`cbcsHdr` as in `protectRanges`) -/
def protOf (c : Codec) : Option (Bytes → Option Nat) → Bytes → Nat
  | none => cencProt c
  | some hdr => cbcsProt c hdr

/-- under cbcs the slice header parser answers inside a video unit; under cenc nothing is asked -/
def HdrOK (c : Codec) : Option (Bytes → Option Nat) → Bytes → Prop
  | none, _ => True
  | some hdr, n => c.isVideo (c.typeOf (n.headD 0)) = true → ∃ k, hdr n = some k ∧ k ≤ n.length

theorem cencProt_shape (c : Codec) (n : Bytes) :
    cencProt c n % 16 = 0 ∧ cencProt c n ≤ n.length ∧
    (c.isVideo (c.typeOf (n.headD 0)) = true → n.length > 127 → n.length - cencProt c n ≤ 127 ∧ 0 < cencProt c n) ∧
    (c.isVideo (c.typeOf (n.headD 0)) = false → cencProt c n = 0) := by
  unfold cencProt
  split
  · rename_i hv
    exact ⟨Nat.mul_mod_left _ _, by omega, fun _ _ => by omega, fun hf => absurd (hf ▸ hv.1) Bool.false_ne_true⟩
  · rename_i hv
    exact ⟨rfl, Nat.zero_le _, fun ht hl => absurd ⟨ht, by omega⟩ hv, fun _ => rfl⟩

theorem protOf_le (c : Codec) : ∀ (hdr? : Option (Bytes → Option Nat)) (n : Bytes), protOf c hdr? n ≤ n.length
  | none, n => (cencProt_shape c n).2.1
  | some hdr, n => by
    simp only [protOf, cbcsProt]
    split
    · exact Nat.sub_le _ _
    · exact Nat.zero_le _

/-- what one round of the loop of `protectRanges` computes for the unit `n` whose first byte is at `pos` (the `r` of
    the model): the end of the clear run and the number of bytes to protect -/
def unitRange (c : Codec) (cbcsHdr : Option (Bytes → Option Nat)) (pos : Nat) (n : Bytes) : Option (Nat × Nat) :=
  if c.isVideo (c.typeOf (n.headD 0)) then
    match cbcsHdr with
    | none =>
      if (n.length + naluHdrLen) % U32 ≥ minClearSize + 16 then
        let p := (((n.length + naluHdrLen) % U32 + U32 - minClearSize) % U32) / 16 * 16
        some (if p > 0 then (pos + n.length + U32 - p) % U32 else pos + n.length, p)
      else some (pos + n.length, 0)
    | some hdr =>
      match hdr n with
      | none => none
      | some k => some ((pos + k) % U32, (n.length + U32 - k) % U32)
  else some (pos + n.length, 0)

/-- `4 ≤ pos`: the length field precedes the unit, so `n.length + 4` does not wrap either -/
theorem unitRange_eq (c : Codec) (hdr? : Option (Bytes → Option Nat)) (pos : Nat) (n : Bytes)
    (hlt : pos + n.length < U32) (h4 : 4 ≤ pos) (hh : HdrOK c hdr? n) :
    unitRange c hdr? pos n = some (pos + n.length - protOf c hdr? n, protOf c hdr? n) := by
  have hq : protOf c hdr? n ≤ pos + n.length := Nat.le_trans (protOf_le c hdr? n) (Nat.le_add_left _ _)
  unfold unitRange
  cases hv : c.isVideo (c.typeOf (n.headD 0)) with
  | false =>
    have : protOf c hdr? n = 0 := by cases hdr? <;> simp only [protOf, cencProt, cbcsProt, hv] <;> rfl
    simp only [this, Bool.false_eq_true, if_false, Nat.sub_zero]
  | true =>
    cases hdr? with
    | none =>
      have hL : n.length + 4 < U32 := by omega
      have a1 : (n.length + naluHdrLen) % U32 = n.length + 4 := Nat.mod_eq_of_lt hL
      simp only [if_true, a1, minClearSize]
      by_cases h112 : n.length + 4 ≥ 112
      · have e : protOf c none n = (n.length + 4 - 96) / 16 * 16 := by simp only [protOf, cencProt, hv, h112]; rfl
        have a2 : (n.length + 4 + U32 - 96) % U32 = n.length + 4 - 96 := wrap_sub (Nat.le_trans (by decide) h112) hL
        have a3 : protOf c none n > 0 :=
          e ▸ Nat.mul_pos (Nat.div_pos (Nat.le_sub_of_add_le (h112 : 16 + 96 ≤ _)) (by decide)) (by decide)
        simp only [h112, if_true, a2, ← e, a3]
        rw [wrap_sub hq hlt]
      · have e : protOf c none n = 0 := by simp only [protOf, cencProt, h112, and_false, if_false]
        simp only [h112, if_false, e, Nat.sub_zero]
    | some hdr =>
      obtain ⟨k, hk, hkl⟩ := hh hv
      simp only [if_true, hk, protOf, cbcsProt, hv, Option.getD_some]
      rw [Nat.mod_eq_of_lt (Nat.lt_of_le_of_lt (Nat.add_le_add_left hkl _) hlt),
        wrap_sub hkl (Nat.lt_of_le_of_lt (Nat.le_add_left _ _) hlt), Nat.add_sub_assoc (Nat.sub_le _ _),
        Nat.sub_sub_self hkl]

/-- one round of the loop on a well-formed sample: the cursor facts are `UnitAt`, `% U32` is the identity below the
    sample length -/
theorem protectRanges_go_step (c : Codec) (hdr? : Option (Bytes → Option Nat)) (s pre n : Bytes) (rest : List Bytes)
    (hu : UnitAt s pre n rest) (hlt : s.length < U32) (hh : HdrOK c hdr? n)
    (f cs ce : Nat) (hcs : cs ≤ pre.length) (acc : List SubSample) :
    protectRanges.go c hdr? s (f + 1) pre.length cs ce acc =
      if 0 < protOf c hdr? n then
        protectRanges.go c hdr? s f (pre.length + 4 + n.length) (pre.length + 4 + n.length) (pre.length + 4 + n.length)
          (appendProtectRange acc (pre.length - cs + (4 + n.length - protOf c hdr? n)) (protOf c hdr? n))
      else protectRanges.go c hdr? s f (pre.length + 4 + n.length) cs (pre.length + 4 + n.length) acc := by
  have hq := protOf_le c hdr? n
  have hP : pre.length + 4 + n.length < U32 := Nat.lt_of_le_of_lt hu.end_le hlt
  have m2 := Nat.mod_eq_of_lt hP
  have m1 : (pre.length + 4) % U32 = pre.length + 4 :=
    Nat.mod_eq_of_lt (Nat.lt_of_le_of_lt (Nat.le_add_right _ _) hP)
  have m0 : pre.length < (s.length - 4) % U32 := by
    rw [Nat.mod_eq_of_lt (Nat.lt_of_le_of_lt (Nat.sub_le _ _) hlt)]; exact Nat.lt_sub_of_add_lt hu.header_lt
  have hr := unitRange_eq c hdr? (pre.length + 4) n hP (Nat.le_add_left _ _) hh
  rw [protectRanges.go]
  simp only [m0, if_true, hu.be32, m1, m2, hu.header, hu.slice, Nat.not_lt.2 hu.end_le, if_false]
  -- what is matched on is `unitRange`, up to the name of the auxiliary matcher (so `rw [hr]` would not find it)
  generalize hE : (ite (c.isVideo _ = true) _ _ : Option (Nat × Nat)) = r
  obtain rfl : r = _ := hE.symm.trans hr
  by_cases hp : 0 < protOf c hdr? n
  · have e : pre.length + 4 + n.length - protOf c hdr? n =
        cs + (pre.length - cs + (4 + n.length - protOf c hdr? n)) := by
      rw [Nat.add_assoc, Nat.add_sub_assoc (Nat.le_trans hq (Nat.le_add_left _ _)), ← Nat.add_assoc,
        Nat.add_sub_cancel' hcs]
    simp only [hp, if_true]
    rw [Nat.sub_add_cancel (Nat.le_trans hq (Nat.le_add_left _ _)), m2,
      wrap_sub (e ▸ Nat.le_add_right _ _) (Nat.lt_of_le_of_lt (Nat.sub_le _ _) hP), e, Nat.add_sub_cancel_left]
  · simp only [gt_iff_lt, Nat.eq_zero_of_not_pos hp, Nat.sub_zero, Nat.lt_irrefl, if_false]

theorem protectRanges_go_end (c : Codec) (hdr? : Option (Bytes → Option Nat)) (s : Bytes) (hlt : s.length < U32)
    (f cs : Nat) (acc : List SubSample) :
    protectRanges.go c hdr? s (f + 1) s.length cs s.length acc =
      some (if s.length > cs then appendProtectRange acc (s.length - cs) 0 else acc) := by
  have m0 : ¬ s.length < (s.length - 4) % U32 :=
    Nat.not_lt.2 (Nat.le_trans (Nat.mod_le _ _) (Nat.sub_le _ _))
  rw [protectRanges.go]
  simp only [m0, if_false]
  split
  · rename_i hgt; rw [wrap_sub (Nat.le_of_lt hgt) hlt]
  · rfl

/-- the mask with `q n` protected bytes at the end of each unit `n` and everything else, length fields included, clear;
    `cencMask c` and `cbcsMask c hdr` are this for `cencProt c` and `cbcsProt c hdr` -/
def unitsMask (q : Bytes → Nat) (ns : List Bytes) : List Bool :=
  ns.flatMap fun n => List.replicate (4 + n.length - q n) false ++ List.replicate (q n) true

/-- the walk from a unit boundary, `pre.length - cs` clear bytes pending: the entries appended have the units' mask;
    `P` is any property of the protected counts (0 and the units' `protOf`) one wants of the entries -/
theorem protectRanges_go_spec (c : Codec) (hdr? : Option (Bytes → Option Nat)) (s : Bytes) (hlt : s.length < U32)
    (P : Nat → Prop) (h0 : P 0) :
    ∀ (rest : List Bytes) (pre : Bytes) (fuel cs : Nat) (acc : List SubSample),
    s = pre ++ lenPrefixed rest → (∀ n ∈ rest, n ≠ [] ∧ HdrOK c hdr? n ∧ P (protOf c hdr? n)) →
    rest.length + 1 ≤ fuel → cs ≤ pre.length →
    ∃ ext, protectRanges.go c hdr? s fuel pre.length cs pre.length acc = some (acc ++ ext) ∧
      maskOf ext = List.replicate (pre.length - cs) false ++ unitsMask (protOf c hdr?) rest ∧
      ∀ r ∈ ext, r.clear ≤ 65535 ∧ P r.prot := by
  intro rest
  induction rest with
  | nil =>
    intro pre fuel cs acc hs _ hf _
    obtain ⟨f, rfl⟩ := Nat.exists_eq_add_one.2 hf
    obtain rfl : s = pre := hs.trans (List.append_nil _)
    rw [protectRanges_go_end c hdr? s hlt]
    split
    · obtain ⟨ext, he, _, _, hall, hmask⟩ := appendProtectRange_ext acc (s.length - cs) 0
      exact ⟨ext, by rw [he], by rw [hmask]; rfl, fun r hr => ⟨(hall r hr).1, (hall r hr).2.elim (· ▸ h0) (· ▸ h0)⟩⟩
    · rename_i hgt
      refine ⟨[], by rw [List.append_nil], ?_, fun r hr => absurd hr List.not_mem_nil⟩
      rw [Nat.sub_eq_zero_of_le (Nat.le_of_not_gt hgt)]; rfl
  | cons n rest ih =>
    intro pre fuel cs acc hs hok hf hcs
    obtain ⟨f, rfl⟩ := Nat.exists_eq_add_one.2 (Nat.lt_of_lt_of_le (Nat.succ_pos _) hf)
    obtain ⟨hne, hh, hP⟩ := hok n List.mem_cons_self
    have hu := unitAt_of_eq s pre n rest hs hlt hne
    replace ih := fun cs acc => ih (pre ++ put32 n.length ++ n) f cs acc hu.next
      (fun m hm => hok m (List.mem_cons_of_mem _ hm)) (Nat.le_of_succ_le_succ hf)
    rw [hu.next_length] at ih
    rw [protectRanges_go_step c hdr? s pre n rest hu hlt hh f cs _ hcs]
    show ∃ ext, _ ∧ maskOf ext = _ ++ (List.replicate (4 + n.length - protOf c hdr? n) false ++
      List.replicate (protOf c hdr? n) true ++ unitsMask (protOf c hdr?) rest) ∧ _
    generalize protOf c hdr? n = q at hP
    split
    · -- protected bytes: the pending clear run and the unit's clear head go into the new entries
      obtain ⟨e1, he, _, _, hall, hmask⟩ := appendProtectRange_ext acc (pre.length - cs + (4 + n.length - q)) q
      obtain ⟨e2, hg, hm, hr⟩ := ih (pre.length + 4 + n.length) (acc ++ e1) (Nat.le_refl _)
      refine ⟨e1 ++ e2, by rw [he, hg, List.append_assoc], ?_, fun r hr' => (List.mem_append.mp hr').elim ?_ (hr r)⟩
      · rw [maskOf_append, hmask, hm, Nat.sub_self, List.replicate_zero, List.nil_append,
          ← List.replicate_append_replicate]
        simp only [List.append_assoc]
      · exact fun hr' => ⟨(hall r hr').1, (hall r hr').2.elim (· ▸ h0) (· ▸ hP)⟩
    · -- nothing protected: the whole unit joins the pending clear run
      rename_i hp
      obtain ⟨e2, hg, hm, hr⟩ := ih cs acc (Nat.le_trans hcs (Nat.le_trans (Nat.le_add_right _ 4) (Nat.le_add_right _ _)))
      refine ⟨e2, hg, ?_, hr⟩
      rw [hm, Nat.eq_zero_of_not_pos hp, Nat.sub_zero, List.replicate_zero, List.append_nil, Nat.add_assoc,
        Nat.sub_add_comm hcs, ← List.replicate_append_replicate]
      simp only [List.append_assoc]

theorem protectRanges_spec (c : Codec) (hdr? : Option (Bytes → Option Nat)) (P : Nat → Prop) (h0 : P 0)
    (ns : List Bytes) (hok : NalusOK ns) (hne : ns ≠ []) (hh : ∀ n ∈ ns, HdrOK c hdr? n ∧ P (protOf c hdr? n)) :
    ∃ rs, protectRanges c hdr? (lenPrefixed ns) = some rs ∧ maskOf rs = unitsMask (protOf c hdr?) ns ∧
      ∀ r ∈ rs, r.clear ≤ 65535 ∧ P r.prot := by
  obtain ⟨hb, hlt⟩ := hok
  unfold protectRanges
  simp only [lenPrefixed_length_ge hne, if_false]
  exact protectRanges_go_spec c hdr? (lenPrefixed ns) hlt P h0 ns [] _ 0 [] rfl
    (fun n hn => ⟨(hb n hn).1, hh n hn⟩) (Nat.succ_le_succ (length_le_lenPrefixed ns)) (Nat.le_refl _)

end Mp4ff.Cenc
