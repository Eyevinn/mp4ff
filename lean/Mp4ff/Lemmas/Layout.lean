import Mp4ff.Model.Boxes
import Mp4ff.Lemmas.Bytes
import Mp4ff.Lemmas.Basics
/-!
The layout DSL in general (serves C01 to C04): when a trace fits a layout (`Fits`), and the two directions of the round trip,
each a lemma about a single field and an induction over the layout: `decode_encode` (a trace that fits is read back) and
`decode_some` (what the decoder returns fits, and is written as what was consumed).  A repeated group is handled as the
conditional group it behaves like (`rep_unroll`).  The single-box round trip `Boxes.roundTrip` is read through
`roundTrip_ok`.
-/
namespace Mp4ff.Layout

/-- a value fits a primitive field (given the values before it) -/
def FldOK (f : Fld) (acc : Trace) (v : Val) : Prop :=
  match f, v with
  | .u w, .n x => x < 256 ^ w
  | .raw n, .b bs => bs.length = n ∧ IsBytes bs
  | .rsv _, .n x => x = 0
  | .cstr, .b bs => IsBytes bs ∧ 0 ∉ bs
  | .rest, .b bs => IsBytes bs
  | .udyn w, .n x => x < 256 ^ (w acc)
  | .rawdyn n, .b bs => bs.length = n acc ∧ IsBytes bs
  | _, _ => False

/-- `.rest` may only be decoded against an empty tail -/
def FldTailOK (f : Fld) (tail : Bytes) : Prop :=
  match f with
  | .rest => tail = []
  | _ => True

/-- a field that always consumes at least one byte -/
def fldPos : Fld → Bool
  | .u w => decide (0 < w)
  | .raw n => decide (0 < n)
  | .rsv fill => !fill.isEmpty
  | .cstr => true
  | .rest => false
  | .udyn _ => false
  | .rawdyn _ => false

/-- every value consumed by `encode` fits its field; `tail` is what follows the encoding when it is decoded -/
def Fits : Nat → List Syn → Trace → Trace → Bytes → Prop
  | 0, _, _, _, _ => False
  | _ + 1, [], _, _, _ => True
  | f + 1, .fld nm fl :: rest, acc, src, tail =>
    match src with
    | [] => False
    | (nm', v) :: src' =>
      nm' = nm ∧ FldOK fl acc v ∧ Fits f rest (acc ++ [(nm, v)]) src' tail ∧
      (match encode f rest (acc ++ [(nm, v)]) src' with
       | some (bs, _, _) => FldTailOK fl (bs ++ tail)
       | none => False)
  | f + 1, .cond p body :: rest, acc, src, tail =>
    if p acc then
      (match encode f body acc src with
       | some (_, a1, s1) =>
         Fits f rest a1 s1 tail ∧
         (match encode f rest a1 s1 with
          | some (b2, _, _) => Fits f body acc src (b2 ++ tail)
          | none => False)
       | none => False)
    else Fits f rest acc src tail
  | f + 1, .rep cnt body :: rest, acc, src, tail =>
    match cnt acc with
    | 0 => Fits f rest acc src tail
    | n + 1 =>
      (match encode f body acc src with
       | some (_, a1, s1) =>
         Fits f (.rep (fun _ => n) body :: rest) a1 s1 tail ∧
         (match encode f (.rep (fun _ => n) body :: rest) a1 s1 with
          | some (b2, _, _) => Fits f body acc src (b2 ++ tail)
          | none => False)
       | none => False)

/-- Seen from a trace `acc`, a layout that begins with a repeated group goes on like one that begins with a conditional
    group: the body if the count is not 0, followed by the group repeated once less.  (The fuel is the same on both sides.) -/
theorem rep_unroll (L : List Syn) (acc : Trace) : ∃ L', (∀ cnt body rest, L' ≠ .rep cnt body :: rest) ∧
    (∀ f bs, decode (f + 1) L acc bs = decode (f + 1) L' acc bs) ∧
    (∀ f src, encode (f + 1) L acc src = encode (f + 1) L' acc src) ∧
    (∀ f bs pos, dontCare (f + 1) L acc bs pos = dontCare (f + 1) L' acc bs pos) ∧
    (∀ f src tail, Fits (f + 1) L acc src tail = Fits (f + 1) L' acc src tail) := by
  match L with
  | [] => exact ⟨[], nofun, fun _ _ => rfl, fun _ _ => rfl, fun _ _ _ => rfl, fun _ _ _ => rfl⟩
  | .fld nm fl :: rest =>
    exact ⟨.fld nm fl :: rest, nofun, fun _ _ => rfl, fun _ _ => rfl, fun _ _ _ => rfl, fun _ _ _ => rfl⟩
  | .cond p body :: rest =>
    exact ⟨.cond p body :: rest, nofun, fun _ _ => rfl, fun _ _ => rfl, fun _ _ _ => rfl, fun _ _ _ => rfl⟩
  | .rep cnt body :: rest =>
    cases hc : cnt acc with
    | zero =>
      exact ⟨.cond (fun _ => false) body :: rest, nofun, by simp [decode, hc], by simp [encode, hc],
        by simp [dontCare, hc], by simp [Fits, hc]⟩
    | succ n =>
      exact ⟨.cond (fun _ => true) body :: .rep (fun _ => n) body :: rest, nofun, by simp [decode, hc],
        by simp [encode, hc], by simp [dontCare, hc], by simp [Fits, hc]⟩

theorem splitZero_append (a t : Bytes) (h : 0 ∉ a) : splitZero (a ++ 0 :: t) = some (a, t) := by
  induction a with
  | nil => simp [splitZero]
  | cons x xs ih =>
    have hx : x ≠ 0 := fun e => h (by simp [e])
    have hxs : 0 ∉ xs := fun e => h (by simp [e])
    simp [splitZero, hx, ih hxs]

theorem splitZero_some : ∀ (bs a r : Bytes), splitZero bs = some (a, r) → bs = a ++ 0 :: r ∧ 0 ∉ a := by
  intro bs
  induction bs with
  | nil => intro a r h; simp [splitZero] at h
  | cons x xs ih =>
    intro a r h
    simp only [splitZero] at h
    by_cases hx : x = 0
    · simp [hx] at h
      obtain ⟨rfl, rfl⟩ := h
      simp [hx]
    · simp only [hx, if_false, Option.map_eq_some_iff] at h
      obtain ⟨⟨a', r'⟩, h1, h2⟩ := h
      simp at h2
      obtain ⟨rfl, rfl⟩ := h2
      obtain ⟨e, hn⟩ := ih a' r' h1
      exact ⟨by rw [e]; simp, by simp [hn, Ne.symm hx]⟩

theorem decFld_encFld (fl : Fld) (acc : Trace) (v : Val) (b tail : Bytes)
    (he : encFld fl acc v = some b) (hok : FldOK fl acc v) (ht : FldTailOK fl tail) :
    decFld fl acc (b ++ tail) = some (v, tail) := by
  -- a value of the wrong kind for its field is refused by `encFld` (in a reserved field, by `FldOK`)
  cases fl <;> cases v <;> simp only [encFld, FldOK, reduceCtorEq] at he hok
  case u.n w x | udyn.n w x => cases he; simp [decFld, beBytes_length, beVal_beBytes _ x hok]
  case raw.b n bs | rawdyn.b n bs => rw [if_pos hok.1] at he; cases he; simp [decFld, hok.1]
  case rsv.n fill x => cases he; cases hok; simp [decFld]
  case cstr.b bs =>
    cases he
    simp only [decFld, List.append_assoc, List.singleton_append]
    rw [splitZero_append _ _ hok.2]; rfl
  case rest.b bs => cases he; cases ht; simp [decFld]

theorem decode_encode (f : Nat) : ∀ (L : List Syn) (acc src : Trace) (tail : Bytes),
    Fits f L acc src tail →
    ∀ bs a s, encode f L acc src = some (bs, a, s) →
      decode f L acc (bs ++ tail) = some (a, tail) := by
  induction f with
  | zero => intro L acc src tail h; simp [Fits] at h
  | succ f ih =>
    intro L acc src tail hfit bs a s hw
    obtain ⟨L', hL', ed, ee, _, ef⟩ := rep_unroll L acc
    rw [ef] at hfit
    rw [ee] at hw
    rw [ed]
    cases L' with
    | nil => cases hw; rfl
    | cons s' rest =>
    cases s' with
    | fld nm fl =>
      cases src with
      | nil => simp [encode] at hw
      | cons x src' =>
        obtain ⟨nm', v⟩ := x
        simp only [Fits] at hfit
        obtain ⟨hn, hok, hrest, htl⟩ := hfit
        subst hn
        simp only [encode, if_true] at hw
        split at hw
        · rename_i b bs' a' s' hb hw'
          simp at hw; obtain ⟨rfl, rfl, rfl⟩ := hw
          rw [hw'] at htl
          simp only [decode, List.append_assoc]
          rw [decFld_encFld fl acc v b _ hb hok htl]
          exact ih rest _ _ tail hrest _ _ _ hw'
        · simp at hw
    | cond p body =>
      simp only [Fits] at hfit
      simp only [encode] at hw
      simp only [decode]
      by_cases hp : p acc
      · simp only [hp, if_true] at hfit hw ⊢
        split at hw
        · rename_i b1 a1 s1 hw1
          rw [hw1] at hfit
          obtain ⟨hr, hb⟩ := hfit
          split at hw
          · rename_i b2 a2 s2 hw2
            rw [hw2] at hb
            simp at hw; obtain ⟨rfl, rfl, rfl⟩ := hw
            have h1 := ih body acc src (b2 ++ tail) hb _ _ _ hw1
            simp only [List.append_assoc, h1]
            exact ih rest _ _ tail hr _ _ _ hw2
          · simp at hw
        · simp at hw
      · simp only [hp] at hfit hw ⊢
        exact ih rest _ _ tail hfit _ _ _ hw
    | rep cnt body => exact absurd rfl (hL' cnt body rest)

/-- don't-care positions of a single field that produced `n` bytes (relative to the field start) -/
def hereOf (fl : Fld) (n : Nat) : List Nat :=
  match fl with
  | .rsv _ => List.range' 0 n
  | _ => []

theorem here_eq (fl : Fld) (pos n : Nat) :
    (match fl with
      | .rsv _ => List.range' pos n
      | _ => []) = (hereOf fl n).map (· + pos) := by
  cases fl <;> simp [hereOf, Nat.add_comm _ pos, List.map_add_range']

/-- `out` holds what `bs` holds at every position of `out` that `dc` does not list: how far a re-encoding reproduces its
    input, `dc` being the don't-care positions -/
def Agree (out bs : Bytes) (dc : List Nat) : Prop := ∀ i, i < out.length → i ∉ dc → out[i]? = bs[i]?

theorem Agree.of_take {b bs : Bytes} {dc : List Nat} (h : b = bs.take b.length) : Agree b bs dc := by
  intro i hi _
  have e := List.getElem?_take_of_lt (l := bs) hi
  rwa [← h] at e

theorem Agree.append {o1 o2 bs bs1 : Bytes} {dc1 dc2 : List Nat} (hdrop : bs1 = bs.drop o1.length)
    (h1 : Agree o1 bs dc1) (h2 : Agree o2 bs1 dc2) : Agree (o1 ++ o2) bs (dc1 ++ dc2.map (· + o1.length)) := by
  intro i hi hn
  simp only [List.mem_append, List.mem_map, not_or] at hn
  by_cases hlt : i < o1.length
  · rw [List.getElem?_append_left hlt]; exact h1 i hlt hn.1
  · have hge : o1.length ≤ i := by omega
    rw [List.getElem?_append_right hge]
    have := h2 (i - o1.length) (by simp at hi; omega) (fun hm => hn.2 ⟨_, hm, by omega⟩)
    rw [this, hdrop, List.getElem?_drop]; congr 1; omega

theorem Agree.of_drop {n : Nat} {enc bs : Bytes} {dc : List Nat} (h : Agree (enc.drop n) (bs.drop n) dc) :
    ∀ i, n ≤ i → i < enc.length → i ∉ dc.map (· + n) → enc[i]? = bs[i]? := by
  intro i hn hi hm
  have := h (i - n) (by rw [List.length_drop]; omega) (fun hd => hm (List.mem_map.2 ⟨i - n, hd, by omega⟩))
  rw [List.getElem?_drop, List.getElem?_drop, show n + (i - n) = i by omega] at this
  exact this

/-- the five fixed-width kinds of field cut `n` bytes off the front -/
theorem ite_drop_eq_some {n : Nat} {bs bs' : Bytes} {v v' : Val}
    (h : (if bs.length < n then none else some (v, bs.drop n)) = some (v', bs')) :
    n ≤ bs.length ∧ v' = v ∧ bs' = bs.drop n := by
  split at h
  · cases h
  · cases h; exact ⟨by omega, rfl, rfl⟩

/-- What `decFld fl acc bs = some (v, bs')` says (`decFld_some`).  The value is re-encoded to as many bytes `b` as were
    consumed whatever the input holds; that `b` *is* what was consumed (outside a reserved field), and that the value fits
    its field, needs the input to consist of bytes. -/
structure FldDecoded (fl : Fld) (acc : Trace) (bs : Bytes) (v : Val) (bs' b : Bytes) : Prop where
  encoded : encFld fl acc v = some b
  length : b.length + bs'.length = bs.length
  rest_eq : bs' = bs.drop b.length
  pos : fldPos fl = true → 0 < b.length
  tailOK : ∀ tail, (bs' = [] → tail = []) → FldTailOK fl tail
  ok : IsBytes bs → FldOK fl acc v
  agree : IsBytes bs → Agree b bs (hereOf fl b.length)

theorem decFld_some (fl : Fld) (acc : Trace) (bs : Bytes) (v : Val) (bs' : Bytes)
    (hd : decFld fl acc bs = some (v, bs')) : ∃ b, FldDecoded fl acc bs v bs' b := by
  have cut : ∀ {n : Nat} {b : Bytes}, n ≤ bs.length → b.length = n →
      b.length + (bs.drop n).length = bs.length ∧ bs.drop n = bs.drop b.length := by
    intro n b hn hb; rw [hb, List.length_drop]; exact ⟨Nat.add_sub_of_le hn, rfl⟩
  have num : ∀ w, w ≤ bs.length → IsBytes bs →
      beBytes w (beVal (bs.take w)) = bs.take w ∧ beVal (bs.take w) < 256 ^ w := by
    intro w hw hI
    have h2 := beVal_lt (bs.take w) (hI.take w)
    rw [List.length_take_of_le hw] at h2
    exact ⟨beBytes_beVal_take hI hw, h2⟩
  cases fl with
  | u w =>
    obtain ⟨hn, rfl, rfl⟩ := ite_drop_eq_some hd
    have hb := beBytes_length w (beVal (bs.take w))
    exact ⟨_, {
      encoded := rfl
      length := (cut hn hb).1
      rest_eq := (cut hn hb).2
      pos := fun h => by rw [hb]; exact of_decide_eq_true h
      tailOK := fun _ _ => trivial
      ok := fun hI => (num w hn hI).2
      agree := fun hI => .of_take (by rw [hb, (num w hn hI).1]) }⟩
  | udyn w =>
    obtain ⟨hn, rfl, rfl⟩ := ite_drop_eq_some hd
    have hb := beBytes_length (w acc) (beVal (bs.take (w acc)))
    exact ⟨_, {
      encoded := rfl
      length := (cut hn hb).1
      rest_eq := (cut hn hb).2
      pos := fun h => absurd h Bool.false_ne_true
      tailOK := fun _ _ => trivial
      ok := fun hI => (num (w acc) hn hI).2
      agree := fun hI => .of_take (by rw [hb, (num (w acc) hn hI).1]) }⟩
  | raw n =>
    obtain ⟨hn, rfl, rfl⟩ := ite_drop_eq_some hd
    have hb := List.length_take_of_le hn
    exact ⟨bs.take n, {
      encoded := if_pos hb
      length := (cut hn hb).1
      rest_eq := (cut hn hb).2
      pos := fun h => by rw [hb]; exact of_decide_eq_true h
      tailOK := fun _ _ => trivial
      ok := fun hI => ⟨hb, hI.take n⟩
      agree := fun _ => .of_take (by rw [hb]) }⟩
  | rawdyn n =>
    obtain ⟨hn, rfl, rfl⟩ := ite_drop_eq_some hd
    have hb := List.length_take_of_le hn
    exact ⟨bs.take (n acc), {
      encoded := if_pos hb
      length := (cut hn hb).1
      rest_eq := (cut hn hb).2
      pos := fun h => absurd h Bool.false_ne_true
      tailOK := fun _ _ => trivial
      ok := fun hI => ⟨hb, hI.take _⟩
      agree := fun _ => .of_take (by rw [hb]) }⟩
  | rsv fill =>
    obtain ⟨hn, rfl, rfl⟩ := ite_drop_eq_some hd
    exact ⟨fill, {
      encoded := rfl
      length := (cut hn rfl).1
      rest_eq := (cut hn rfl).2
      pos := fun h => by
        cases fill with
        | nil => cases h
        | cons => exact Nat.succ_pos _
      tailOK := fun _ _ => trivial
      ok := fun _ => rfl
      -- every position of a reserved field is a don't-care position
      agree := fun _ i hi hn => absurd (List.mem_range'_1.2 ⟨Nat.zero_le i, by omega⟩) hn }⟩
  | cstr =>
    simp only [decFld, Option.map_eq_some_iff] at hd
    obtain ⟨⟨a, r⟩, h1, h2⟩ := hd
    cases h2
    obtain ⟨e, hn⟩ := splitZero_some _ _ _ h1
    have e' : bs = (a ++ [0]) ++ r := by rw [e, List.append_assoc]; rfl
    subst e'
    exact ⟨a ++ [0], {
      encoded := rfl
      length := List.length_append.symm
      rest_eq := (List.drop_left' rfl).symm
      pos := fun _ => by simp
      tailOK := fun _ _ => trivial
      ok := fun hI => ⟨hI.of_append_left.of_append_left, hn⟩
      agree := fun _ => .of_take (List.take_left' rfl).symm }⟩
  | rest =>
    cases hd
    exact ⟨bs, {
      encoded := rfl
      length := by simp
      rest_eq := by simp
      pos := fun h => absurd h Bool.false_ne_true
      tailOK := fun tail h => h rfl
      ok := fun hI => hI
      agree := fun _ _ _ _ => rfl }⟩

theorem map_add_add (l : List Nat) (a b : Nat) : (l.map (· + a)).map (· + b) = l.map (· + (b + a)) := by
  rw [List.map_map]
  exact List.map_congr_left fun x _ => by simp only [Function.comp_def]; omega

/-- when the first part left nothing, the second part wrote nothing and left nothing: the condition under which
    `.rest` may be decoded again is handed from a layout to its front part -/
theorem append_tail_eq_nil {o2 rst bs1 tail : Bytes} (hlen : o2.length + rst.length = bs1.length)
    (ht : rst = [] → tail = []) (e : bs1 = []) : o2 ++ tail = [] := by
  subst e
  have h : o2.length = 0 ∧ rst.length = 0 := by simp only [List.length_nil] at hlen; omega
  rw [List.eq_nil_of_length_eq_zero h.1, ht (List.eq_nil_of_length_eq_zero h.2)]; rfl

/-- What `decode f L acc bs = some (a, rest)` says (`decode_some`).  The trace grew by `ext`, which `encode` accepts
    (`∀ more` and `∀ pos`: the body of a group is followed by the rest of the layout), writing as many bytes `out` as were
    consumed.  So far for arbitrary lists of naturals.  On bytes, `out` is what was consumed outside the don't-care
    positions `dc`, and `ext` fits the layout in front of any tail that is empty if `rest` is: the decoder's output lies where
    `decode_encode` applies, so `out` is read back as `ext`. -/
structure Decoded (f : Nat) (L : List Syn) (acc : Trace) (bs : Bytes) (a : Trace) (rest : Bytes) (ext : Trace)
    (out : Bytes) (dc : List Nat) : Prop where
  trace_eq : a = acc ++ ext
  encoded : ∀ more, encode f L acc (ext ++ more) = some (out, a, more)
  dontCare_eq : ∀ pos, dontCare f L acc bs pos = some (dc.map (· + pos), a, rest, pos + out.length)
  length : out.length + rest.length = bs.length
  rest_eq : rest = bs.drop out.length
  agree : IsBytes bs → Agree out bs dc
  fits : IsBytes bs → ∀ more tail, (rest = [] → tail = []) → Fits f L acc (ext ++ more) tail

theorem decode_some (f : Nat) : ∀ (L : List Syn) (acc : Trace) (bs : Bytes) (a : Trace) (rest : Bytes),
    decode f L acc bs = some (a, rest) → ∃ ext out dc, Decoded f L acc bs a rest ext out dc := by
  induction f with
  | zero => intro L acc bs a rest h; simp [decode] at h
  | succ f ih =>
    intro L acc bs a rst hd
    obtain ⟨L', hL', ed, ee, edc, ef⟩ := rep_unroll L acc
    rw [ed] at hd
    -- enough for `L'`, on which the three functions that the fields speak of do what they do on `L`
    suffices h : ∃ ext out dc, Decoded (f + 1) L' acc bs a rst ext out dc by
      obtain ⟨ext, out, dc, d⟩ := h
      exact ⟨ext, out, dc, { d with
        encoded := fun more => (ee f _).trans (d.encoded more)
        dontCare_eq := fun pos => (edc f bs pos).trans (d.dontCare_eq pos)
        fits := fun hI more tail ht => (ef f _ tail).mpr (d.fits hI more tail ht) }⟩
    cases L' with
    | nil =>
      simp only [decode, Option.some.injEq, Prod.mk.injEq] at hd
      obtain ⟨rfl, rfl⟩ := hd
      exact ⟨[], [], [], {
        trace_eq := (List.append_nil acc).symm
        encoded := fun _ => rfl
        dontCare_eq := fun _ => rfl
        length := Nat.zero_add _
        rest_eq := rfl
        agree := fun _ _ hi => (Nat.not_lt_zero _ hi).elim
        fits := fun _ _ _ _ => trivial }⟩
    | cons s rest =>
    cases s with
    | fld nm fl =>
      simp only [decode] at hd
      split at hd
      · rename_i v bs' hv
        obtain ⟨b, df⟩ := decFld_some fl acc bs v bs' hv
        obtain ⟨ext2, o2, dc2, d2⟩ := ih rest _ bs' a rst hd
        exact ⟨(nm, v) :: ext2, b ++ o2, hereOf fl b.length ++ dc2.map (· + b.length), {
          trace_eq := by rw [d2.trace_eq]; simp
          encoded := fun more => by simp only [encode, List.cons_append, if_true, df.encoded, d2.encoded more]
          dontCare_eq := fun pos => by
            have hused : bs.length - bs'.length = b.length := Nat.sub_eq_of_eq_add df.length.symm
            simp only [dontCare, hv, hused, d2.dontCare_eq (pos + b.length), Option.map_some, List.map_append,
              map_add_add, List.length_append, Nat.add_assoc]
            -- `rw [here_eq]` finds nothing: the `match` here is `dontCare`'s own, the same as `here_eq`'s only after unfolding
            congr 3
            exact here_eq fl pos b.length
          length := by rw [List.length_append, ← df.length, ← d2.length, Nat.add_assoc]
          rest_eq := by rw [d2.rest_eq, df.rest_eq, List.drop_drop, List.length_append]
          agree := fun hI => .append df.rest_eq (df.agree hI) (d2.agree (df.rest_eq ▸ hI.drop _))
          fits := fun hI more tail ht => by
            simp only [Fits, List.cons_append, d2.encoded more, true_and]
            exact ⟨df.ok hI, d2.fits (df.rest_eq ▸ hI.drop _) more tail ht,
              df.tailOK _ (append_tail_eq_nil d2.length ht)⟩ }⟩
      · simp at hd
    | cond p body =>
      simp only [decode] at hd
      by_cases hp : p acc
      · simp only [hp, if_true] at hd
        split at hd
        · rename_i a1 bs1 h1
          obtain ⟨ext1, o1, dc1, d1⟩ := ih body acc bs a1 bs1 h1
          obtain ⟨ext2, o2, dc2, d2⟩ := ih rest a1 bs1 a rst hd
          exact ⟨ext1 ++ ext2, o1 ++ o2, dc1 ++ dc2.map (· + o1.length), {
            trace_eq := by rw [d2.trace_eq, d1.trace_eq]; simp
            encoded := fun more => by
              simp only [encode, hp, if_true, List.append_assoc, d1.encoded (ext2 ++ more), d2.encoded more]
            dontCare_eq := fun pos => by
              simp only [dontCare, hp, if_true, d1.dontCare_eq pos, d2.dontCare_eq (pos + o1.length), Option.map_some,
                List.map_append, map_add_add, List.length_append, Nat.add_assoc]
            length := by rw [List.length_append, ← d1.length, ← d2.length, Nat.add_assoc]
            rest_eq := by rw [d2.rest_eq, d1.rest_eq, List.drop_drop, List.length_append]
            agree := fun hI => .append d1.rest_eq (d1.agree hI) (d2.agree (d1.rest_eq ▸ hI.drop _))
            fits := fun hI more tail ht => by
              simp only [Fits, hp, if_true, List.append_assoc, d1.encoded (ext2 ++ more), d2.encoded more]
              exact ⟨d2.fits (d1.rest_eq ▸ hI.drop _) more tail ht,
                d1.fits hI _ _ (append_tail_eq_nil d2.length ht)⟩ }⟩
        · simp at hd
      · simp only [hp] at hd
        obtain ⟨ext2, o2, dc2, d2⟩ := ih rest acc bs a rst hd
        exact ⟨ext2, o2, dc2, { d2 with
          encoded := fun more => by simp only [encode, hp]; exact d2.encoded more
          dontCare_eq := fun pos => by simp only [dontCare, hp]; exact d2.dontCare_eq pos
          fits := fun hI more tail ht => by simp only [Fits, hp]; exact d2.fits hI more tail ht }⟩
    | rep cnt body => exact absurd rfl (hL' cnt body rest)

section
variable {f : Nat} {L : List Syn} {acc a ext : Trace} {bs rest out : Bytes} {dc : List Nat}

theorem Decoded.encoded_nil (d : Decoded f L acc bs a rest ext out dc) : encode f L acc ext = some (out, a, []) := by
  simpa using d.encoded []

theorem Decoded.dontCare_zero (d : Decoded f L acc bs a rest ext out dc) :
    dontCare f L acc bs 0 = some (dc, a, rest, out.length) := by
  simpa using d.dontCare_eq 0

/-- what was written for the consumed bytes is decoded to the same trace, in front of any tail that is empty if `rest` is -/
theorem Decoded.redecode (d : Decoded f L acc bs a rest ext out dc) (hI : IsBytes bs) (tail : Bytes)
    (ht : rest = [] → tail = []) : decode f L acc (out ++ tail) = some (a, tail) := by
  have hfit := d.fits hI [] tail ht
  rw [List.append_nil] at hfit
  exact decode_encode f L acc ext tail hfit out a [] d.encoded_nil

end

/-- a whole layout (`acc = []`): what the trace grew by is the trace -/
theorem decode_some_nil {f : Nat} {L : List Syn} {bs rest : Bytes} {tr : Trace}
    (hd : decode f L [] bs = some (tr, rest)) : ∃ out dc, Decoded f L [] bs tr rest tr out dc := by
  obtain ⟨ext, out, dc, d⟩ := decode_some f L [] bs tr rest hd
  obtain rfl : tr = ext := d.trace_eq
  exact ⟨out, dc, d⟩

/-- `a.drop acc.length` are the values decoded by this layout (the trace grows by appending). -/
theorem encode_decode (f : Nat) : ∀ (L : List Syn) (acc : Trace) (bs : Bytes) (a : Trace) (rest : Bytes),
    IsBytes bs → decode f L acc bs = some (a, rest) →
    ∃ out dc p, encode f L acc (a.drop acc.length) = some (out, a, []) ∧
      dontCare f L acc bs 0 = some (dc, a, rest, p) ∧ p = out.length ∧
      out.length + rest.length = bs.length ∧
      (∀ i, i < out.length → i ∉ dc → out[i]? = bs[i]?) ∧
      decode f L acc (out ++ rest) = some (a, rest) := by
  intro L acc bs a rest hI hd
  obtain ⟨ext, out, dc, d⟩ := decode_some f L acc bs a rest hd
  refine ⟨out, dc, out.length, ?_, d.dontCare_zero, rfl, d.length, d.agree hI, d.redecode hI rest id⟩
  rw [d.trace_eq, List.drop_left, ← d.trace_eq]
  exact d.encoded_nil

theorem decode_fuel_mono (f g : Nat) (h : f ≤ g) : ∀ (L : List Syn) (acc : Trace) (bs : Bytes) r,
    decode f L acc bs = some r → decode g L acc bs = some r := by
  induction f generalizing g with
  | zero => intro L acc bs r h; simp [decode] at h
  | succ f ih =>
    intro L acc bs r hd
    obtain ⟨g, rfl⟩ := Nat.exists_eq_add_one.2 (by omega : 0 < g)
    have hfg : f ≤ g := by omega
    obtain ⟨L', hL', ed, _⟩ := rep_unroll L acc
    rw [ed] at hd ⊢
    cases L' with
    | nil => simpa [decode] using hd
    | cons s rest =>
    cases s with
    | fld nm fl =>
      simp only [decode] at hd ⊢
      split at hd
      · exact ih g hfg _ _ _ _ hd
      · simp at hd
    | cond p body =>
      simp only [decode] at hd ⊢
      by_cases hp : p acc
      · simp only [hp, if_true] at hd ⊢
        split at hd
        · rename_i a1 bs1 h1
          rw [ih g hfg _ _ _ _ h1]
          exact ih g hfg _ _ _ _ hd
        · simp at hd
      · simp only [hp] at hd ⊢
        exact ih g hfg _ _ _ _ hd
    | rep cnt body => exact absurd rfl (hL' cnt body rest)

end Mp4ff.Layout

namespace Mp4ff.Boxes
open Mp4ff.Layout

/-- What `parseHeader bs = some (ty, hl, sz)` says: the header is 8 bytes long unless the 32-bit size field holds 1 (then 16,
    the size following as 64 bits), and an 8-byte header gives the size field as the size. -/
structure Header (bs : Bytes) (ty : String) (hl sz : Nat) : Prop where
  hl_ge : 8 ≤ hl
  hl_le : hl ≤ bs.length
  ty_eq : ty = String.ofList (((bs.drop 4).take 4).map fun b => Char.ofNat b)
  hl_eq_8 : hl = 8 ↔ beVal (bs.take 4) ≠ 1
  size_eq : hl = 8 → sz = beVal (bs.take 4)

theorem parseHeader_some {bs : Bytes} {ty : String} {hl sz : Nat} (h : parseHeader bs = some (ty, hl, sz)) :
    Header bs ty hl sz := by
  unfold parseHeader at h
  obtain ⟨c0, h⟩ := ite_ne_left h nofun
  by_cases h1 : beVal (bs.take 4) = 1
  · rw [if_pos h1] at h
    obtain ⟨c1, h⟩ := ite_ne_left h nofun
    obtain ⟨c2, h⟩ := ite_ne_left h nofun
    cases h
    exact { hl_ge := by omega, hl_le := by omega, ty_eq := rfl, hl_eq_8 := by simp [h1], size_eq := by omega }
  · rw [if_neg h1] at h
    obtain ⟨c1, h⟩ := ite_ne_left h nofun
    obtain ⟨c2, h⟩ := ite_ne_left h nofun
    cases h
    exact { hl_ge := by omega, hl_le := by omega, ty_eq := rfl, hl_eq_8 := by simp [h1], size_eq := fun _ => rfl }

theorem parseHeader_congr (a b : Bytes) (h : a.take 8 = b.take 8) (hb : 8 ≤ b.length)
    (h1 : beVal (b.take 4) ≠ 1) : parseHeader a = parseHeader b := by
  have ha : 8 ≤ a.length := by
    have := congrArg List.length h
    rw [List.length_take, List.length_take, Nat.min_eq_left hb] at this
    exact this ▸ Nat.min_le_right 8 a.length
  have e4 : a.take 4 = b.take 4 := by
    have := congrArg (List.take 4) h
    rwa [List.take_take, List.take_take] at this
  have d4 : (a.drop 4).take 4 = (b.drop 4).take 4 := by
    have := congrArg (List.drop 4) h
    rwa [List.drop_take, List.drop_take] at this
  simp only [parseHeader, e4, d4, h1, if_false, if_neg (show ¬ a.length < 8 by omega),
    if_neg (show ¬ b.length < 8 by omega)]

theorem parseHeader_normal (bs : Bytes) (h : 8 ≤ bs.length) (hs : 8 ≤ beVal (bs.take 4)) :
    parseHeader bs = some (String.ofList (((bs.drop 4).take 4).map fun b => Char.ofNat b), 8, beVal (bs.take 4)) := by
  simp only [parseHeader]
  rw [if_neg (by omega), if_neg (by omega), if_neg (by omega), if_neg (by omega)]

theorem writtenBox_parts (bs : Bytes) (h8 : 8 ≤ bs.length) {n : Nat} {out enc : Bytes}
    (he : enc = beBytes 4 n ++ (bs.drop 4).take 4 ++ out) :
    enc.length = 8 + out.length ∧ enc.take 4 = beBytes 4 n ∧ (enc.drop 4).take 4 = (bs.drop 4).take 4 ∧
      enc.drop 8 = out := by
  subst he
  have hl := beBytes_length 4 n
  have ht : ((bs.drop 4).take 4).length = 4 := by rw [List.length_take, List.length_drop]; omega
  refine ⟨by simp only [List.length_append, hl, ht], ?_, ?_, ?_⟩
  · rw [List.append_assoc, List.take_left' hl]
  · rw [List.append_assoc, List.drop_left' hl, List.take_left' ht]
  · exact List.drop_left' (by rw [List.length_append, hl, ht])

/-- An accepted single box, whatever the header length `hl`: the payload `bs.drop hl` was decoded by the layout of the box
    type to `tr`, leaving `rest`, and written again as `out` behind an 8-byte header; `dc0` are the don't-care positions
    in `out` (`Layout.decode_some_nil`, `Layout.Decoded.redecode`). -/
structure Leaf (bs : Bytes) (size : Nat) (enc : Bytes) (dc : List Nat) (ty : String) (hl : Nat) (sp : Spec) (tr : Trace)
    (rest out : Bytes) (dc0 : List Nat) : Prop where
  header : parseHeader bs = some (ty, hl, bs.length)
  spec : specOf ty = some sp
  valid : sp.valid tr = true
  encOK : sp.encOK tr = true
  encoded : encode (fuelFor sp.layout (bs.drop hl).length) sp.layout [] tr = some (out, tr, [])
  length : out.length + rest.length = bs.length - hl
  agree : IsBytes bs → Agree out (bs.drop hl) dc0
  redecode : IsBytes bs → ∀ tail, (rest = [] → tail = []) →
    decode (fuelFor sp.layout (bs.drop hl).length) sp.layout [] (out ++ tail) = some (tr, tail)
  size_eq : size = 8 + out.length
  enc_eq : enc = beBytes 4 (8 + out.length) ++ (bs.drop 4).take 4 ++ out
  dc_eq : dc = dc0.map (· + 8)

theorem roundTrip_ok (bs : Bytes) (size : Nat) (enc : Bytes) (dc : List Nat) (h : roundTrip bs = .ok size enc dc) :
    ∃ ty hl sp tr rest out dc0, Leaf bs size enc dc ty hl sp tr rest out dc0 := by
  unfold roundTrip at h
  cases hph : parseHeader bs with
  | none => rw [hph] at h; cases h
  | some p =>
  obtain ⟨ty, hl, sz⟩ := p
  rw [hph] at h
  replace h := ite_ne_left h nofun
  obtain ⟨hsz, h⟩ := h
  obtain rfl : sz = bs.length := Decidable.not_not.mp hsz
  cases hsp : specOf ty with
  | none => rw [hsp] at h; cases h
  | some sp =>
  simp only [hsp] at h
  cases hdec : decode (fuelFor sp.layout (bs.drop hl).length) sp.layout [] (bs.drop hl) with
  | none => rw [hdec] at h; cases h
  | some r =>
  obtain ⟨tr, rest⟩ := r
  rw [hdec] at h
  obtain ⟨out, dc0, d⟩ := decode_some_nil hdec
  -- neither of the two size checks (strict, exact) refused, nor `valid`, nor `encOK`
  replace h := (ite_ne_left h nofun).2
  replace h := (ite_ne_left h nofun).2
  obtain ⟨hv, h⟩ := ite_ne_left h nofun
  obtain ⟨hok, h⟩ := ite_ne_left h nofun
  rw [d.encoded_nil, d.dontCare_zero] at h
  simp only [RT.ok.injEq] at h
  exact ⟨ty, hl, sp, tr, rest, out, dc0, {
    header := hph
    spec := hsp
    valid := Decidable.not_not.mp hv
    encOK := Decidable.not_not.mp hok
    encoded := d.encoded_nil
    length := List.length_drop ▸ d.length
    agree := fun hI => d.agree (hI.drop hl)
    redecode := fun hI => d.redecode (hI.drop hl)
    size_eq := h.1.symm
    enc_eq := h.2.1.symm
    dc_eq := h.2.2.symm }⟩

theorem roundTrip_spec (bs : Bytes) (hb : IsBytes bs) (size : Nat) (enc : Bytes) (dc : List Nat)
    (h8 : beVal (bs.take 4) ≠ 1) (hsz : bs.length < 2 ^ 32) (h : roundTrip bs = .ok size enc dc) :
    enc.length = size ∧ beVal (enc.take 4) = size ∧ (enc.drop 4).take 4 = (bs.drop 4).take 4 ∧
    enc.length ≤ bs.length ∧
    (∀ i, 8 ≤ i → i < enc.length → i ∉ dc → enc[i]? = bs[i]?) ∧
    (enc.length = bs.length → ∃ dc', roundTrip enc = .ok size enc dc') := by
  obtain ⟨ty, hl, sp, tr, rest, out, dc0, r⟩ := roundTrip_ok bs size enc dc h
  have hdr := parseHeader_some r.header
  obtain rfl : hl = 8 := hdr.hl_eq_8.2 h8
  have hlen8 := hdr.hl_le
  have hlen := r.length
  obtain ⟨e1, e2, e3, e4⟩ := writtenBox_parts bs hlen8 r.enc_eq
  have hle : 8 + out.length ≤ bs.length := by omega
  have e2' : beVal (enc.take 4) = 8 + out.length := e2 ▸ beVal_beBytes 4 _ (Nat.lt_of_le_of_lt hle hsz)
  rw [r.size_eq, r.dc_eq]
  refine ⟨e1, e2', e3, e1 ▸ hle, Agree.of_drop (by rw [e4]; exact r.agree hb), fun heq => ?_⟩
  -- nothing was dropped: `out` is as long as the payload was, and is read as the payload was
  have hol : (bs.drop 8).length = out.length := by rw [List.length_drop, ← heq, e1, Nat.add_sub_cancel_left]
  have henc := r.encoded
  have hdec3 := r.redecode hb [] (fun _ => rfl)
  rw [hol] at henc hdec3
  rw [List.append_nil] at hdec3
  have h8l : 8 ≤ enc.length := e1 ▸ Nat.le_add_right 8 _
  have h8v : 8 ≤ beVal (enc.take 4) := e2' ▸ Nat.le_add_right 8 _
  have hph' := parseHeader_normal enc h8l h8v
  rw [e2', e3, ← hdr.ty_eq, ← e1] at hph'
  simp only [roundTrip, hph', e4, r.spec, hdec3, henc, r.valid, r.encOK, e3, ← r.enc_eq]
  simp

end Mp4ff.Boxes

