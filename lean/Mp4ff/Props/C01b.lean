import Mp4ff.Lemmas.Tree
/-!
C01 / C02 at every level of nesting: property theorems about `Model/Tree.lean` (`DecodeBox` + `Encode` on one box
that may be a container: the sixteen plain ones of `TreeRT.plain`, and stsd, dref, wvtt and the eight visual sample
entries of `TreeRT.prefixed`, whose children follow a fixed prefix).  Proofs in `Mp4ff/Lemmas/Tree.lean`.
-/
namespace Mp4ff.TreeRT.C01b
open Mp4ff.Boxes

/-- **nothing is dropped inside a container**: whenever a container is accepted and re-encoded, the output has
    exactly the input's length (every child re-encodes to the bytes it occupied, `MoovBox.AddChild` only permutes) -/
theorem container_length (f : Nat) (bs : Bytes) (enc : Bytes) (dc : List Nat) (ty : String) (hl size : Nat)
    (hh : parseHeader bs = some (ty, hl, size)) (hc : containers.contains ty = true)
    (h : rtBox f bs = .ok enc dc) : enc.length = bs.length :=
  TreeRT.container_length f bs enc dc ty hl size hh hc h

/-- **C02 at this level and below**: the size field written in the header equals the number of bytes written, the
    type is unchanged, and nothing grows -/
theorem header_field (f : Nat) (bs : Bytes) (hb : IsBytes bs) (enc : Bytes) (dc : List Nat)
    (hsz : bs.length < 2 ^ 32) (h : rtBox f bs = .ok enc dc) :
    beVal (enc.take 4) = enc.length ∧ (enc.drop 4).take 4 = (bs.drop 4).take 4 ∧ enc.length ≤ bs.length :=
  TreeRT.header_field f bs hb enc dc hsz h

/-- **C01 through nesting**: with no `moov` reordering on the way, the re-encoded tree equals the input at every
    position outside the don't-care positions collected from the leaves (shifted to their place in the tree) -/
theorem lossless (f : Nat) (bs : Bytes) (hb : IsBytes bs) (enc : Bytes) (dc : List Nat)
    (hsz : bs.length < 2 ^ 32) (h8 : beVal (bs.take 4) ≠ 1) (hm : moovFree f bs = true)
    (h : rtBox f bs = .ok enc dc) :
    ∀ i, 8 ≤ i → i < enc.length → i ∉ dc → enc[i]? = bs[i]? :=
  TreeRT.lossless f bs hb enc dc hsz h8 hm h

/-- more fuel never changes an answer other than "out of fuel" (`rejected` at fuel 0) -/
theorem fuel_mono (f g : Nat) (hfg : f ≤ g) (bs : Bytes) (enc : Bytes) (dc : List Nat)
    (h : rtBox f bs = .ok enc dc) : rtBox g bs = .ok enc dc :=
  TreeRT.fuel_mono f g hfg bs enc dc h

/-- the fuel `roundTripTree` uses suffices: a larger fuel gives the same accepted result, so `roundTripTree` is the
    unbounded recursion wherever it accepts -/
theorem roundTripTree_stable (bs : Bytes) (enc : Bytes) (dc : List Nat) (g : Nat) (hg : bs.length + 2 ≤ g)
    (h : roundTripTree bs = .ok enc dc) : rtBox g bs = .ok enc dc :=
  TreeRT.roundTripTree_stable bs enc dc g hg h

/-- **fixed point through nesting** (C01's second sentence): when nothing was dropped at the top (the output has the
    input's length) and no `moov` reordering happens on the way, decoding the re-encoded tree again succeeds and
    re-encoding it gives exactly the same bytes -/
theorem fixed_point (f : Nat) (bs : Bytes) (hb : IsBytes bs) (enc : Bytes) (dc : List Nat)
    (hsz : bs.length < 2 ^ 32) (h8 : beVal (bs.take 4) ≠ 1) (hm : moovFree f bs = true)
    (h : rtBox f bs = .ok enc dc) (hlen : enc.length = bs.length) :
    ∃ dc', rtBox f enc = .ok enc dc' :=
  TreeRT.fixed_point f bs hb enc dc hsz h8 hm h hlen

/-- **what `MoovBox.AddChild` may do to the order** (the committed trak-adjacent normalisation): whatever the children of
    a moov box are, after all `AddChild` calls the trak boxes are in their original relative order and so are all the
    other children — nothing is lost, duplicated or altered, only traks move next to each other -/
theorem moov_order (kids : List Kid) :
    (arrange "moov" kids).filter (fun k => k.ty == "trak") = kids.filter (fun k => k.ty == "trak") ∧
    (arrange "moov" kids).filter (fun k => !(k.ty == "trak")) = kids.filter (fun k => !(k.ty == "trak")) :=
  TreeRT.moov_order kids

/-- non-vacuity: a concrete nested tree (traf [tfhd, tfdt]) is accepted and reproduced -/
example : (match roundTripTree ([0,0,0,0x2c] ++ [0x74,0x72,0x61,0x66] ++
      ([0,0,0,0x10] ++ [0x74,0x66,0x68,0x64] ++ [0,0,0,0, 0,0,0,1]) ++
      ([0,0,0,0x14] ++ [0x74,0x66,0x64,0x74] ++ [1,0,0,0, 0,0,0,0,0,0,0,9])) with
    | .ok enc _ => enc.length | _ => 0) = 44 := by decide

end Mp4ff.TreeRT.C01b
