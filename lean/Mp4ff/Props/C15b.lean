import Mp4ff.Lemmas.AvcPps
import Mp4ff.Lemmas.HevcSps
import Mp4ff.Lemmas.PictureSize
import Mp4ff.Lemmas.HevcPps
import Mp4ff.Lemmas.AvcSlice
import Mp4ff.Lemmas.HevcSlice
/-!
# C15 / C16, second part — AVC PPS, HEVC SPS and PPS, the two slice headers
Property theorems about the AVC picture parameter set (`Model/AvcPps.lean`, the transcription of avc/pps.go
`ParsePPSNALUnit`: a prefix syntax in the bitstream DSL, the `more_rbsp_data()` look-ahead, a tail syntax sized by the
chroma format of the SPS the PPS refers to, the trailing-bits check) and the HEVC sequence parameter set
(`Model/HevcSps.lean`, the transcription of hevc/sps.go `ParseSPSNALUnit` with profile_tier_level and sub-layers,
scaling list data, short-term RPS incl. inter-RPS prediction, long-term pictures, VUI/HRD, range / multilayer / 3D / SCC
extensions, the extension-data look-ahead loop and `ImageSize`); in the same way about the HEVC picture parameter set
(`Model/HevcPps.lean`) and the AVC and HEVC slice headers (`Model/AvcSlice.lean`, `HevcSlice.lean`).  Proofs in `Lemmas/BitSyn*.lean` (the DSL) and one module per syntax (`Lemmas/AvcPps.lean`,
`HevcSps.lean`, …).
The models are tied to the Go code by the `avcppsm` / `hevcspsm` correspondence ops (valid NAL units of the harness's
independent serialisers, truncations and hostile variants).
-/
namespace Mp4ff.C15b
open Mp4ff.BitSyn Mp4ff.Bits

/-! ## the executable checks (`Lemmas/BitSynRoundtrip.lean`) establish `TraceOK` and `TailOK` -/

theorem traceOK_of_check {f : Nat} {L : List Syn} {tr : Trace} (h : traceOKb f L [] tr = true) : TraceOK f L tr :=
  of_traceOKb h

theorem tailOK_of_check {f : Nat} {chroma : Option Nat} {tr1 tr2 : Trace}
    (h : traceOKb f (AvcPps.tail chroma) tr1 tr2 = true) : AvcPps.TailOK f chroma tr1 tr2 :=
  of_traceOKb h

section AvcPps
open Mp4ff.AvcPps

/-- **AVC PPS round trip** (C15): take any valid value assignment `tr1` of the PPS syntax up to
    redundant_pic_cnt_present_flag (all slice-group map types) and optionally one, `tr2`, of the part behind
    `more_rbsp_data()` (transform_8x8_mode_flag, picture scaling lists — 6, 8 or 12 of them depending on the chroma
    format of the SPS found under the PPS's sps id —, second_chroma_qp_index_offset).  The NAL unit an independent
    serialiser writes for them (emulation prevention, rbsp trailing bits) is parsed by the `ParsePPSNALUnit` model back
    to exactly those values, and the look-ahead reports "more data" exactly when the tail was coded. -/
theorem pps_roundtrip (f : Nat) (spsMap : List (Nat × Nat)) (tr1 : Trace) (tr2 : Option Trace) (nalu : Bytes)
    (h1 : TraceOK f (pre (capOf nalu)) tr1)
    (h2 : ∀ t2, tr2 = some t2 → TailOK f (lookupChroma spsMap tr1) tr1 t2)
    (hs : serializePps f (capOf nalu) (lookupChroma spsMap tr1) tr1 tr2 = some nalu) :
    parsePps f spsMap nalu = .ok (tr1 ++ tr2.getD []) tr2.isSome :=
  AvcPps.pps_roundtrip f spsMap tr1 tr2 nalu h1 h2 hs

/-- **`more_rbsp_data()` on the bit level**: with the unread bits `b :: L` the look-ahead answers "more" unless the
    next bit is the last 1 bit of the unit, and leaves the reader where it was -/
theorem moreRbspData_spec (r : ER) (P : Bytes) (b : Bool) (L : List Bool) (h : r.Inv P) (habs : r.abs P = b :: L) :
    Sei.moreRbspData r = (r, if b then L.any id else true) := Sei.moreRbspData_spec r P b L h habs

/-- **`rbsp_trailing_bits()` on the bit level**: a stop bit followed by zero bits is accepted without error -/
theorem readTrailing_spec (r : ER) (P : Bytes) (m : Nat) (h : r.Inv P)
    (habs : r.abs P = true :: List.replicate m false) :
    (Sei.readTrailing r).2 = .none ∧ (Sei.readTrailing r).1.err = false := Sei.readTrailing_spec r P m h habs

/-- **the AVC PPS parser terminates on every byte string** (C16) — whatever the bytes and whatever the SPS map: with
    fuel (= nesting depth of the reader's recursion) of 8·|nalu| + 95 the model never runs out of fuel; the
    slice_group_id loop, the only one without a constant bound, ends with the input -/
theorem pps_total (spsMap : List (Nat × Nat)) (nalu : Bytes) (f : Nat) (hf : capOf nalu + 87 ≤ f) :
    parsePps f spsMap nalu ≠ .fuel := (parsePps_spec f spsMap nalu hf).1

/-- … and the answer holds at most 3·(8·|nalu| + 8) + 828 values: memory linear in the input -/
theorem pps_total_length (spsMap : List (Nat × Nat)) (nalu : Bytes) (f : Nat) (hf : capOf nalu + 87 ≤ f) :
    ∀ t more, parsePps f spsMap nalu = .ok t more → t.length ≤ 3 * capOf nalu + 828 :=
  AvcPps.pps_total_length spsMap nalu f hf

/-- the fuel the driver uses is always enough (no `fuel` answer can hide a disagreement) -/
theorem pps_total_driver (spsMap : List (Nat × Nat)) (nalu : Bytes) : parsePps (fuel nalu) spsMap nalu ≠ .fuel :=
  AvcPps.pps_total_driver spsMap nalu

/-- **generic totality with the depth bound**: every parser written in the DSL returns on every reader state once the
    fuel covers the nesting depth `depthL L` (repetition caps + longest chain), and yields at most `maxEntriesL L` values -/
theorem parse_total_depth (f : Nat) (L : List Syn) (acc : Trace) (e : ER) (hf : depthL L ≤ f) :
    ∃ acc' e', parse f L acc e = some (acc', e') ∧ acc'.length ≤ acc.length + maxEntriesL L :=
  BitSyn.parse_total_depth f L acc e hf

/-! non-vacuity: a PPS with 4 slice groups of map type 0 and a tail with one coded 4x4 scaling list; SPS 0 has
    chroma_format_idc 1 (so 6 lists) -/
def exPps1 : Trace := [("nal_header", 72), ("pic_parameter_set_id", 1), ("seq_parameter_set_id", 0),
  ("entropy_coding_mode_flag", 0), ("bottom_field_pic_order_in_frame_present_flag", 1), ("num_slice_groups_minus1", 3),
  ("slice_group_map_type", 0), ("run_length_minus1", 16), ("run_length_minus1", 71), ("run_length_minus1", 110),
  ("run_length_minus1", 3), ("num_ref_idx_l0_default_active_minus1", 13), ("num_ref_idx_l1_default_active_minus1", 8),
  ("weighted_pred_flag", 0), ("weighted_bipred_idc", 1), ("pic_init_qp_minus26", -1), ("pic_init_qs_minus26", 2),
  ("chroma_qp_index_offset", 0), ("deblocking_filter_control_present_flag", 0), ("constrained_intra_pred_flag", 0),
  ("redundant_pic_cnt_present_flag", 0)]
def exPps2 : Trace := [("transform_8x8_mode_flag", 0), ("pic_scaling_matrix_present_flag", 1),
  ("scaling_list_present", 1), ("delta_scale", 0), ("delta_scale", -3), ("delta_scale", -38), ("delta_scale", 3),
  ("delta_scale", -3), ("delta_scale", -5), ("delta_scale", -3), ("delta_scale", -107), ("delta_scale", -64),
  ("delta_scale", -3), ("delta_scale", -41), ("scaling_list_present", 0), ("scaling_list_present", 0),
  ("scaling_list_present", 0), ("scaling_list_present", 0), ("scaling_list_present", 0),
  ("second_chroma_qp_index_offset", -3)]
def exPpsNalu : Bytes := [0x48, 0x54, 0x90, 0x88, 0x12, 0x00, 0xde, 0x41, 0xc2, 0x4b, 0x24, 0x39, 0xc0, 0x9a, 0x63,
  0x8b, 0x38, 0x0d, 0x70, 0x10, 0x27, 0x02, 0x98, 0x0f]
def exSpsMap : List (Nat × Nat) := [(0, 1), (1, 0), (30, 1)]

private theorem exPps1_ok : TraceOK 300 (pre (capOf exPpsNalu)) exPps1 := traceOK_of_check (by decide +kernel)
private theorem exPps2_ok : TailOK 300 (lookupChroma exSpsMap exPps1) exPps1 exPps2 :=
  tailOK_of_check (by decide +kernel)
private theorem exPps_ser :
    serializePps 300 (capOf exPpsNalu) (lookupChroma exSpsMap exPps1) exPps1 (some exPps2) = some exPpsNalu := by
  decide +kernel

example : TraceOK 300 (pre (capOf exPpsNalu)) exPps1 := exPps1_ok
example : TailOK 300 (lookupChroma exSpsMap exPps1) exPps1 exPps2 := exPps2_ok
example : serializePps 300 (capOf exPpsNalu) (lookupChroma exSpsMap exPps1) exPps1 (some exPps2) = some exPpsNalu := by
  exact exPps_ser
/-- … hence the conclusion of `pps_roundtrip` for it -/
example : parsePps 300 exSpsMap exPpsNalu = .ok (exPps1 ++ exPps2) true :=
  pps_roundtrip 300 exSpsMap exPps1 (some exPps2) exPpsNalu exPps1_ok (fun t2 h => by cases h; exact exPps2_ok)
    exPps_ser
/-- hostile input for the totality statement: slice group map type 6 announcing 2^32-1 map units in 11 bytes; the
    loop ends with the input and the parser reports the error -/
def exPpsHostile : Bytes := [0x68, 0xc4, 0x70, 0x00, 0x00, 0x00, 0x1f, 0xff, 0xff, 0xff, 0xe0]
example : parsePps (capOf exPpsHostile + 87) [] exPpsHostile = .err ∧
    ((parse 200 (pre (capOf exPpsHostile)) [] { rest := exPpsHostile }).map
      fun r => (r.1.nat "pic_size_in_map_units_minus1", (r.1.all "slice_group_id").length)) = some (4294967294, 96) := by
  decide +kernel

end AvcPps

section HevcSps
open Mp4ff.HevcSps

/-- **HEVC SPS round trip** (C15): for every valid value assignment of the SPS syntax as hevc/sps.go reads it
    (profile_tier_level with up to 7 sub-layers, conformance window, sub-layer ordering info, scaling list data,
    up to 255 short-term reference picture sets with inter-RPS prediction whose flag counts depend on the set derived
    before, long-term pictures with a computed field width, VUI with HRD and sub-picture parameters, range /
    multilayer / 3D / SCC extensions) the NAL unit an independent serialiser writes is parsed by the complete
    `ParseSPSNALUnit` model — syntax, extension-data look-ahead, trailing-bits check — back to exactly those values -/
theorem sps_roundtrip (f : Nat) (tr : Trace) (nalu : Bytes) (h : TraceOK f (sps (capOf nalu)) tr)
    (hs : serialize f (sps (capOf nalu)) tr = some nalu) : parseSps f nalu = .ok tr [] :=
  HevcSps.sps_roundtrip f tr nalu h hs

/-- **the HEVC SPS parser terminates on every byte string** (C16): fuel (nesting depth) 3·(8·|nalu| + 8) + 870 is
    always enough — 255 short-term sets of ≤ 17 + 32 entries, 255 long-term pictures, 8 sub-layers × 2 × 32 CPB
    entries are constant bounds of the parser; the three palette-initialiser loops end with the input -/
theorem sps_total (nalu : Bytes) (f : Nat) (hf : 3 * capOf nalu + 870 ≤ f) : parseSps f nalu ≠ .fuel :=
  HevcSps.sps_total nalu f hf

/-- … and the answer holds at most 51·(8·|nalu| + 8) + 96194 values: memory linear in the input -/
theorem sps_total_length (nalu : Bytes) (f : Nat) (hf : 3 * capOf nalu + 870 ≤ f) :
    ∀ t ext, parseSps f nalu = .ok t ext → t.length ≤ 51 * capOf nalu + 96194 :=
  HevcSps.sps_total_length nalu f hf

/-- the fuel the driver uses is always enough -/
theorem sps_total_driver (nalu : Bytes) : parseSps (fuel nalu) nalu ≠ .fuel := HevcSps.sps_total_driver nalu

/-- **picture size** (C15): `SPS.ImageSize()` (Go uint32 arithmetic, SubWidthC/SubHeightC chosen by the low 8 bits of
    chroma_format_idc) equals the standard's derivation (7.4.3.2.1 with Table 6-1) whenever chroma_format_idc is one of
    the four defined values and the conformance window lies inside the picture -/
theorem dims_eq_std (t : Trace) (hc : t.nat "chroma_format_idc" ≤ 3) (hfit : WindowFits t) :
    stdDims t = some (dims t) := HevcSps.dims_eq_std t hc hfit

/-- **`Read(48)` = `Read(16)` then `Read(32)`** — the one place where the SPS term deviates from the letter of the
    code (the generic round trip is stated for fields of up to 32 bits): with at least 48 unread bits both read the
    same value (high 16 bits · 2^32 + low 32 bits) and leave the same unread bits -/
theorem read48_split (e : ER) (P : Bytes) (he : e.Inv P) (h : 48 ≤ (e.abs P).length) :
    (e.read 48).2 = (e.read 16).2 * 2 ^ 32 + ((e.read 16).1.read 32).2 ∧
    ∃ P1 P2, (e.read 48).1.Inv P1 ∧ ((e.read 16).1.read 32).1.Inv P2 ∧
      (e.read 48).1.abs P1 = ((e.read 16).1.read 32).1.abs P2 := HevcSps.read48_split e P he h

/-- non-vacuity of `read48_split`'s hypotheses and its conclusion on concrete bytes -/
example : (({ rest := [0x12, 0x34, 0x56, 0x78, 0x9a, 0xbc, 0xde] } : ER).read 48).2 = 0x123456789abc ∧
    (({ rest := [0x12, 0x34, 0x56, 0x78, 0x9a, 0xbc, 0xde] } : ER).read 16).2 * 2 ^ 32 +
      ((({ rest := [0x12, 0x34, 0x56, 0x78, 0x9a, 0xbc, 0xde] } : ER).read 16).1.read 32).2 = 0x123456789abc := by
  decide +kernel

/-! non-vacuity: an SPS with 4 temporal sub-layers (one with its own profile and level), 4:4:4 with separate colour
    planes, a conformance window, PCM, two short-term reference picture sets the second of which is inter-predicted,
    VUI with timing and HRD information for every sub-layer, bitstream restrictions -/
def exSps : Trace :=
  [("nal_header", 16897), ("sps_video_parameter_set_id", 2), ("sps_max_sub_layers_minus1", 3),
  ("sps_temporal_id_nesting_flag", 1), ("general_profile_space", 0), ("general_tier_flag", 0),
  ("general_profile_idc", 1), ("general_profile_compatibility_flags", 54984551), ("general_constraint_flags_hi16",
  45056), ("general_constraint_flags_lo32", 0), ("general_level_idc", 30), ("sub_layer_profile_present_flag", 0),
  ("sub_layer_level_present_flag", 0), ("sub_layer_profile_present_flag", 0), ("sub_layer_level_present_flag", 0),
  ("sub_layer_profile_present_flag", 1), ("sub_layer_level_present_flag", 1), ("reserved_zero_2bits", 0),
  ("sub_layer_profile_space", 0), ("sub_layer_tier_flag", 0), ("sub_layer_profile_idc", 7),
  ("sub_layer_profile_compatibility_flags", 16777216), ("sub_layer_constraint_flags_hi16", 58382),
  ("sub_layer_constraint_flags_lo32", 0), ("sub_layer_level_idc", 203), ("sps_seq_parameter_set_id", 2),
  ("chroma_format_idc", 3), ("separate_colour_plane_flag", 1), ("pic_width_in_luma_samples", 96),
  ("pic_height_in_luma_samples", 6896), ("conformance_window_flag", 1), ("conf_win_left_offset", 1),
  ("conf_win_right_offset", 2), ("conf_win_top_offset", 1), ("conf_win_bottom_offset", 0), ("bit_depth_luma_minus8",
  0), ("bit_depth_chroma_minus8", 1), ("log2_max_pic_order_cnt_lsb_minus4", 0),
  ("sps_sub_layer_ordering_info_present_flag", 1), ("sps_max_dec_pic_buffering_minus1", 2),
  ("sps_max_num_reorder_pics", 1), ("sps_max_latency_increase_plus1", 3), ("sps_max_dec_pic_buffering_minus1", 0),
  ("sps_max_num_reorder_pics", 0), ("sps_max_latency_increase_plus1", 1), ("sps_max_dec_pic_buffering_minus1", 0),
  ("sps_max_num_reorder_pics", 0), ("sps_max_latency_increase_plus1", 3), ("sps_max_dec_pic_buffering_minus1", 2),
  ("sps_max_num_reorder_pics", 2), ("sps_max_latency_increase_plus1", 1), ("log2_min_luma_coding_block_size_minus3",
  0), ("log2_diff_max_min_luma_coding_block_size", 0), ("log2_min_luma_transform_block_size_minus2", 0),
  ("log2_diff_max_min_luma_transform_block_size", 0), ("max_transform_hierarchy_depth_inter", 1),
  ("max_transform_hierarchy_depth_intra", 1), ("scaling_list_enabled_flag", 0), ("amp_enabled_flag", 0),
  ("sample_adaptive_offset_enabled_flag", 0), ("pcm_enabled_flag", 1), ("pcm_sample_bit_depth_luma_minus1", 1),
  ("pcm_sample_bit_depth_chroma_minus1", 3), ("log2_min_pcm_luma_coding_block_size_minus3", 0),
  ("log2_diff_max_min_pcm_luma_coding_block_size", 0), ("pcm_loop_filter_disabled_flag", 0),
  ("num_short_term_ref_pic_sets", 2), ("num_negative_pics", 0), ("num_positive_pics", 0),
  ("inter_ref_pic_set_prediction_flag", 1), ("delta_rps_sign", 0), ("abs_delta_rps_minus1", 2),
  ("used_by_curr_pic_flag", 0), ("use_delta_flag", 1), ("long_term_ref_pics_present_flag", 0),
  ("sps_temporal_mvp_enabled_flag", 1), ("strong_intra_smoothing_enabled_flag", 0), ("vui_parameters_present_flag",
  1), ("aspect_ratio_info_present_flag", 1), ("aspect_ratio_idc", 9), ("overscan_info_present_flag", 1),
  ("overscan_appropriate_flag", 0), ("video_signal_type_present_flag", 0), ("chroma_loc_info_present_flag", 0),
  ("neutral_chroma_indication_flag", 0), ("field_seq_flag", 1), ("frame_field_info_present_flag", 1),
  ("default_display_window_flag", 0), ("vui_timing_info_present_flag", 1), ("vui_num_units_in_tick", 4294967294),
  ("vui_time_scale", 4), ("vui_poc_proportional_to_timing_flag", 0), ("vui_hrd_parameters_present_flag", 1),
  ("nal_hrd_parameters_present_flag", 0), ("vcl_hrd_parameters_present_flag", 0), ("fixed_pic_rate_general_flag",
  1), ("elemental_duration_in_tc_minus1", 0), ("cpb_cnt_minus1", 17), ("fixed_pic_rate_general_flag", 0),
  ("fixed_pic_rate_within_cvs_flag", 0), ("low_delay_hrd_flag", 0), ("cpb_cnt_minus1", 0),
  ("fixed_pic_rate_general_flag", 0), ("fixed_pic_rate_within_cvs_flag", 0), ("low_delay_hrd_flag", 0),
  ("cpb_cnt_minus1", 6), ("fixed_pic_rate_general_flag", 0), ("fixed_pic_rate_within_cvs_flag", 1),
  ("elemental_duration_in_tc_minus1", 37), ("cpb_cnt_minus1", 0), ("bitstream_restriction_flag", 1),
  ("tiles_fixed_structure_flag", 1), ("motion_vectors_over_pic_boundaries_flag", 1),
  ("restricted_ref_pic_lists_flag", 1), ("min_spatial_segmentation_idc", 4095), ("max_bytes_per_pic_denom", 12),
  ("max_bits_per_min_cu_denom", 11), ("log2_max_mv_length_horizontal", 7), ("log2_max_mv_length_vertical", 3),
  ("sps_extension_present_flag", 0)]
def exSpsNalu : Bytes :=
  [66, 1, 39, 1, 3, 70, 255, 103, 176, 0, 0, 3, 0, 0, 3, 0, 30, 12, 0, 7, 1, 0, 0, 3, 0, 228, 14, 0, 0, 3, 0, 0,
  203, 100, 129, 132, 0, 53, 227, 77, 107, 104, 154, 200, 218, 244, 132, 79, 62, 106, 194, 97, 191, 255, 255, 255,
  192, 0, 0, 3, 0, 137, 132, 132, 29, 4, 223, 0, 8, 0, 13, 24, 32, 136]

private theorem exSps_checked :
    TraceOK 3000 (sps (capOf exSpsNalu)) exSps ∧ serialize 3000 (sps (capOf exSpsNalu)) exSps = some exSpsNalu :=
  of_serializedb (by decide +kernel)

example : TraceOK 3000 (sps (capOf exSpsNalu)) exSps := exSps_checked.1
example : serialize 3000 (sps (capOf exSpsNalu)) exSps = some exSpsNalu := exSps_checked.2
/-- … hence the conclusion of `sps_roundtrip`; the derived sets: set 1 is predicted from the empty set 0 with
    deltaRps = +3 → one positive picture at distance 3, not used by the current picture -/
example : parseSps 3000 exSpsNalu = .ok exSps [] ∧
    rpsSets exSps = [{}, { s0 := [], s1 := [(3, false)], numDelta := 1 }] :=
  ⟨sps_roundtrip 3000 exSps exSpsNalu exSps_checked.1 exSps_checked.2, by decide +kernel⟩
example : exSps.nat "chroma_format_idc" ≤ 3 ∧ WindowFits exSps ∧ dims exSps = (93, 6895) := by
  unfold WindowFits; decide +kernel
/-- hostile input for the totality statements: a truncated SPS is an error, not a hang -/
example : parseSps (3 * capOf (exSpsNalu.take 40) + 870) (exSpsNalu.take 40) = .err := by decide +kernel

end HevcSps

section HevcPps
open Mp4ff.HevcPps

/-- **HEVC PPS round trip** (C15): for every valid value assignment of the PPS syntax as hevc/pps.go reads it (tiles with
    explicit column/row sizes, deblocking control, scaling list data, range extension with chroma QP offset lists,
    multilayer extension with reference location offsets and the colour mapping table whose octants split recursively,
    3D extension with depth look-up tables in both codings, SCC extension with palette initialisers) the NAL unit an
    independent serialiser writes is parsed by the complete `ParsePPSNALUnit` model — syntax, extension-data
    look-ahead, trailing-bits check — back to exactly those values -/
theorem hevc_pps_roundtrip (f : Nat) (spsIds : List Nat) (tr : Trace) (nalu : Bytes)
    (h : TraceOK f (pps spsIds (capOf nalu)) tr)
    (hs : serialize f (pps spsIds (capOf nalu)) tr = some nalu) : parsePps f spsIds nalu = .ok tr [] :=
  HevcPps.pps_roundtrip f spsIds tr nalu h hs

/-- **the HEVC PPS parser terminates on every byte string** (C16), whatever the SPS map: fuel (nesting depth)
    5·(8·|nalu| + 8) + 800 is always enough; the loops without a constant bound (tile sizes, depth look-up table
    entries, palette initialisers) end with the input, the octant recursion is at most 3 deep -/
theorem hevc_pps_total (spsIds : List Nat) (nalu : Bytes) (f : Nat) (hf : 5 * capOf nalu + 800 ≤ f) :
    parsePps f spsIds nalu ≠ .fuel := HevcPps.pps_total spsIds nalu f hf

/-- the fuel the driver uses is always enough -/
theorem hevc_pps_total_driver (spsIds : List Nat) (nalu : Bytes) : parsePps (fuel nalu) spsIds nalu ≠ .fuel :=
  HevcPps.pps_total_driver spsIds nalu

/-! non-vacuity 1: a PPS with the multilayer extension: one reference location offset and a colour mapping table with
    two luma partitions (8 corner records, coefficients with a computed residual width) -/
def exHPps1 : Trace :=
  [("nal_header", 17409), ("pps_pic_parameter_set_id", 4), ("pps_seq_parameter_set_id", 9),
  ("dependent_slice_segments_enabled_flag", 0), ("output_flag_present_flag", 0), ("num_extra_slice_header_bits", 2),
  ("sign_data_hiding_enabled_flag", 0), ("cabac_init_present_flag", 1), ("num_ref_idx_l0_default_active_minus1", 1),
  ("num_ref_idx_l1_default_active_minus1", 13), ("init_qp_minus26", -3), ("constrained_intra_pred_flag", 0),
  ("transform_skip_enabled_flag", 1), ("cu_qp_delta_enabled_flag", 0), ("pps_cb_qp_offset", 12),
  ("pps_cr_qp_offset", -8), ("pps_slice_chroma_qp_offsets_present_flag", 0), ("weighted_pred_flag", 0),
  ("weighted_bipred_flag", 1), ("transquant_bypass_enabled_flag", 0), ("tiles_enabled_flag", 0),
  ("entropy_coding_sync_enabled_flag", 0), ("pps_loop_filter_across_slices_enabled_flag", 1),
  ("deblocking_filter_control_present_flag", 1), ("deblocking_filter_override_enabled_flag", 1),
  ("pps_deblocking_filter_disabled_flag", 0), ("pps_beta_offset_div2", -6), ("pps_tc_offset_div2", 0),
  ("pps_scaling_list_data_present_flag", 0), ("lists_modification_present_flag", 1),
  ("log2_parallel_merge_level_minus2", 3), ("slice_segment_header_extension_present_flag", 0),
  ("pps_extension_present_flag", 1), ("pps_range_extension_flag", 1), ("pps_multilayer_extension_flag", 1),
  ("pps_3d_extension_flag", 0), ("pps_scc_extension_flag", 0), ("pps_extension_4bits", 0),
  ("log2_max_transform_skip_block_size_minus2", 1), ("cross_component_prediction_enabled_flag", 0),
  ("chroma_qp_offset_list_enabled_flag", 0), ("log2_sao_offset_scale_luma", 0), ("log2_sao_offset_scale_chroma", 0),
  ("poc_reset_info_present_flag", 0), ("pps_infer_scaling_list_flag", 1), ("pps_scaling_list_ref_layer_id", 63),
  ("num_ref_loc_offsets", 1), ("ref_loc_offset_layer_id", 5), ("scaled_ref_layer_offset_present_flag", 0),
  ("ref_region_offset_present_flag", 0), ("resample_phase_set_present_flag", 0), ("colour_mapping_enabled_flag", 1),
  ("num_cm_ref_layers_minus1", 3), ("cm_ref_layer_id", 20), ("cm_ref_layer_id", 31), ("cm_ref_layer_id", 14),
  ("cm_ref_layer_id", 35), ("cm_octant_depth", 0), ("cm_y_part_num_log2", 1), ("luma_bit_depth_cm_input_minus8", 1),
  ("chroma_bit_depth_cm_input_minus8", 2), ("luma_bit_depth_cm_output_minus8", 2),
  ("chroma_bit_depth_cm_output_minus8", 3), ("cm_res_quant_bits", 1), ("cm_delta_flc_bits_minus1", 1),
  ("coded_res_flag", 0), ("coded_res_flag", 1), ("res_coeff_q", 0), ("res_coeff_r", 37), ("res_coeff_s", 1),
  ("res_coeff_q", 12), ("res_coeff_r", 16), ("res_coeff_s", 0), ("res_coeff_q", 0), ("res_coeff_r", 63),
  ("res_coeff_s", 0), ("coded_res_flag", 0), ("coded_res_flag", 1), ("res_coeff_q", 2), ("res_coeff_r", 52),
  ("res_coeff_s", 0), ("res_coeff_q", 1), ("res_coeff_r", 4), ("res_coeff_s", 1), ("res_coeff_q", 3),
  ("res_coeff_r", 45), ("res_coeff_s", 1), ("coded_res_flag", 1), ("res_coeff_q", 3), ("res_coeff_r", 21),
  ("res_coeff_s", 0), ("res_coeff_q", 0), ("res_coeff_r", 10), ("res_coeff_s", 0), ("res_coeff_q", 3),
  ("res_coeff_r", 48), ("res_coeff_s", 0), ("coded_res_flag", 0), ("coded_res_flag", 0), ("coded_res_flag", 1),
  ("res_coeff_q", 11), ("res_coeff_r", 35), ("res_coeff_s", 1), ("res_coeff_q", 0), ("res_coeff_r", 35),
  ("res_coeff_s", 0), ("res_coeff_q", 1), ("res_coeff_r", 59), ("res_coeff_s", 1)]
def exHPpsNalu1 : Bytes :=
  [68, 1, 40, 161, 40, 113, 208, 96, 34, 71, 13, 164, 112, 17, 191, 161, 68, 138, 62, 116, 98, 155, 34, 185, 99, 80,
  127, 47, 66, 18, 75, 114, 42, 148, 38, 2, 50, 62, 50, 239]
/-! non-vacuity 2: a PPS with tiles of explicit sizes and the 3D extension (delta-coded depth look-up table) -/
def exHPps2 : Trace :=
  [("nal_header", 17409), ("pps_pic_parameter_set_id", 55), ("pps_seq_parameter_set_id", 3),
  ("dependent_slice_segments_enabled_flag", 1), ("output_flag_present_flag", 0), ("num_extra_slice_header_bits", 0),
  ("sign_data_hiding_enabled_flag", 0), ("cabac_init_present_flag", 0), ("num_ref_idx_l0_default_active_minus1", 2),
  ("num_ref_idx_l1_default_active_minus1", 10), ("init_qp_minus26", 2), ("constrained_intra_pred_flag", 1),
  ("transform_skip_enabled_flag", 0), ("cu_qp_delta_enabled_flag", 0), ("pps_cb_qp_offset", 11),
  ("pps_cr_qp_offset", 3), ("pps_slice_chroma_qp_offsets_present_flag", 1), ("weighted_pred_flag", 0),
  ("weighted_bipred_flag", 0), ("transquant_bypass_enabled_flag", 1), ("tiles_enabled_flag", 1),
  ("entropy_coding_sync_enabled_flag", 0), ("num_tile_columns_minus1", 1), ("num_tile_rows_minus1", 2),
  ("uniform_spacing_flag", 0), ("column_width_minus1", 2), ("row_height_minus1", 2), ("row_height_minus1", 30),
  ("loop_filter_across_tiles_enabled_flag", 1), ("pps_loop_filter_across_slices_enabled_flag", 1),
  ("deblocking_filter_control_present_flag", 0), ("pps_scaling_list_data_present_flag", 0),
  ("lists_modification_present_flag", 1), ("log2_parallel_merge_level_minus2", 2),
  ("slice_segment_header_extension_present_flag", 0), ("pps_extension_present_flag", 1),
  ("pps_range_extension_flag", 0), ("pps_multilayer_extension_flag", 0), ("pps_3d_extension_flag", 1),
  ("pps_scc_extension_flag", 0), ("pps_extension_4bits", 0), ("dlts_present_flag", 1), ("pps_depth_layers_minus1",
  2), ("pps_bit_depth_for_depth_layers_minus8", 0), ("dlt_flag", 1), ("dlt_pred_flag", 0),
  ("dlt_val_flags_present_flag", 0), ("num_val_delta_dlt", 0), ("dlt_flag", 1), ("dlt_pred_flag", 0),
  ("dlt_val_flags_present_flag", 0), ("num_val_delta_dlt", 4), ("max_diff", 2), ("min_diff_minus1", 0),
  ("delta_dlt_val0", 45), ("delta_val_diff_minus_min", 1), ("delta_val_diff_minus_min", 1),
  ("delta_val_diff_minus_min", 0), ("dlt_flag", 0)]
def exHPpsNalu2 : Bytes :=
  [68, 1, 7, 4, 128, 197, 146, 5, 141, 50, 102, 195, 249, 105, 4, 32, 128, 16, 16, 8, 45, 200]

private theorem exHPps1_checked : TraceOK 3000 (pps [9] (capOf exHPpsNalu1)) exHPps1 ∧
    serialize 3000 (pps [9] (capOf exHPpsNalu1)) exHPps1 = some exHPpsNalu1 := of_serializedb (by decide +kernel)
private theorem exHPps2_checked : TraceOK 3000 (pps [1, 3] (capOf exHPpsNalu2)) exHPps2 ∧
    serialize 3000 (pps [1, 3] (capOf exHPpsNalu2)) exHPps2 = some exHPpsNalu2 := of_serializedb (by decide +kernel)

example : TraceOK 3000 (pps [9] (capOf exHPpsNalu1)) exHPps1 := exHPps1_checked.1
example : parsePps 3000 [9] exHPpsNalu1 = .ok exHPps1 [] :=
  hevc_pps_roundtrip 3000 [9] exHPps1 exHPpsNalu1 exHPps1_checked.1 exHPps1_checked.2
example : parsePps 3000 [1, 3] exHPpsNalu2 = .ok exHPps2 [] :=
  hevc_pps_roundtrip 3000 [1, 3] exHPps2 exHPpsNalu2 exHPps2_checked.1 exHPps2_checked.2
/-- hostile inputs for the totality statement: the SPS id is not in the map; the unit is cut -/
example : parsePps (5 * capOf exHPpsNalu1 + 800) [1] exHPpsNalu1 = .err ∧
    parsePps (5 * capOf (exHPpsNalu1.take 20) + 800) [9] (exHPpsNalu1.take 20) = .err := by decide +kernel

end HevcPps

section AvcSlice
open Mp4ff.AvcSlice

/-- **AVC slice header round trip, bit level** (C15): whatever bits follow the header (`tail`: the slice data), reading
    the bits an independent serialiser wrote for a valid value assignment of the slice header syntax — with the PPS
    resolved through the slice's pic_parameter_set_id and the SPS through *that PPS's* seq_parameter_set_id, all slice
    types, ref_pic_list_modification, pred_weight_table, dec_ref_pic_marking — gives back exactly those values without
    error and leaves the reader exactly at the first bit behind the header, which is what the reported size is read from -/
theorem slice_roundtrip_bits (f : Nat) (sm : List SpsInfo) (pm : List PpsInfo) (cap : Nat) (tr : Trace)
    (os : List Op) (e : ER) (P : Bytes) (tail : List Bool)
    (hops : ops f (slice sm pm cap) [] tr = some (os, tr, [])) (hst : stopped tr = false) (hok : ∀ op ∈ os, op.OK)
    (he : e.Inv P) (habs : e.abs P = opsBits os ++ tail) :
    ∃ e' P', parse f (slice sm pm cap) [] e = some (tr, e') ∧ e'.Inv P' ∧ e'.abs P' = tail ∧ e'.err = false ∧
      e'.nread + e'.rest.length = e.nread + e.rest.length :=
  AvcSlice.slice_roundtrip_bits f sm pm cap tr os e P tail hops hst hok he habs

/-- **AVC slice header round trip, NAL unit level**: a slice NAL unit made of the header and the trailing bits parses
    to the coded values; the reported header size counts bytes of the unit -/
theorem slice_roundtrip (f : Nat) (sm : List SpsInfo) (pm : List PpsInfo) (tr : Trace) (nalu : Bytes)
    (h : TraceOK f (slice sm pm (capOf nalu)) tr)
    (hs : serialize f (slice sm pm (capOf nalu)) tr = some nalu) :
    ∃ size, parseSlice f sm pm nalu = .ok tr size ∧ size ≤ nalu.length :=
  AvcSlice.slice_roundtrip f sm pm tr nalu h hs

/-- **the AVC slice header parser terminates on every byte string** (C16), whatever the parameter-set maps: fuel
    3·(8·|nalu| + 8) + 200; the three `for { … }` loops end with their end code or with the input -/
theorem slice_total (sm : List SpsInfo) (pm : List PpsInfo) (nalu : Bytes) (f : Nat)
    (hf : 3 * capOf nalu + 200 ≤ f) : parseSlice f sm pm nalu ≠ .fuel := AvcSlice.slice_total sm pm nalu f hf

/-- the fuel the driver uses is always enough -/
theorem slice_total_driver (sm : List SpsInfo) (pm : List PpsInfo) (nalu : Bytes) :
    parseSlice (fuel nalu) sm pm nalu ≠ .fuel := AvcSlice.slice_total_driver sm pm nalu

/-! non-vacuity: an SP slice referring to PPS 5, which refers to SPS 1 (pps id ≠ sps id): list modification, explicit
    weights for 4 reference pictures, adaptive marking, deblocking parameters -/
def exSm : List SpsInfo := [⟨1, 0, 0, false, true, 1, true, 1, 768, 1008, 0, 0, 0, 0⟩]
def exPm : List PpsInfo := [⟨1, 1, false, true, 0, 31, true, 0, true, false, 0, 0, 0⟩,
  ⟨5, 1, true, false, 3, 1, true, 1, false, true, 0, 0, 0⟩]
def exSlice : Trace :=
  [("nal_header", 65), ("first_mb_in_slice", 1), ("slice_type", 3), ("pic_parameter_set_id", 5), ("frame_num", 0),
  ("num_ref_idx_active_override_flag", 0), ("ref_pic_list_modification_flag_l0", 1),
  ("modification_of_pic_nums_idc", 0), ("abs_diff_pic_num_minus1", 9), ("modification_of_pic_nums_idc", 3),
  ("luma_log2_weight_denom", 1), ("chroma_log2_weight_denom", 1), ("luma_weight_flag_l0", 0),
  ("chroma_weight_flag_l0", 0), ("luma_weight_flag_l0", 0), ("chroma_weight_flag_l0", 1), ("chroma_weight_l0", 1),
  ("chroma_offset_l0", 66), ("chroma_weight_l0", 17), ("chroma_offset_l0", 1), ("luma_weight_flag_l0", 0),
  ("chroma_weight_flag_l0", 1), ("chroma_weight_l0", 44), ("chroma_offset_l0", 6), ("chroma_weight_l0", 0),
  ("chroma_offset_l0", 0), ("luma_weight_flag_l0", 1), ("luma_weight_l0", 18), ("luma_offset_l0", 0),
  ("chroma_weight_flag_l0", 1), ("chroma_weight_l0", 4), ("chroma_offset_l0", 0), ("chroma_weight_l0", 0),
  ("chroma_offset_l0", 2), ("adaptive_ref_pic_marking_mode_flag", 1), ("memory_management_control_operation", 0),
  ("slice_qp_delta", 0), ("sp_for_switch_flag", 1), ("slice_qs_delta", 0), ("disable_deblocking_filter_idc", 2),
  ("slice_alpha_c0_offset_div2", 0), ("slice_beta_offset_div2", 1)]
def exSliceNalu : Bytes := [65, 68, 48, 49, 68, 72, 80, 16, 194, 73, 5, 167, 225, 60, 187, 251, 168]

private theorem exSlice_checked : TraceOK 1000 (slice exSm exPm (capOf exSliceNalu)) exSlice ∧
    serialize 1000 (slice exSm exPm (capOf exSliceNalu)) exSlice = some exSliceNalu :=
  of_serializedb (by decide +kernel)

example : TraceOK 1000 (slice exSm exPm (capOf exSliceNalu)) exSlice := exSlice_checked.1
example : serialize 1000 (slice exSm exPm (capOf exSliceNalu)) exSlice = some exSliceNalu := exSlice_checked.2
example : parseSlice 1000 exSm exPm exSliceNalu = .ok exSlice 17 := by decide +kernel
/-- hostile inputs: unknown PPS; a unit that ends inside the header -/
example : parseSlice (3 * capOf exSliceNalu + 200) exSm [] exSliceNalu = .err ∧
    parseSlice (3 * capOf (exSliceNalu.take 9) + 200) exSm exPm (exSliceNalu.take 9) = .trunc := by decide +kernel

end AvcSlice

section HevcSlice
open Mp4ff.HevcSlice

/-- **HEVC slice header round trip, bit level** (C15): whatever bits follow (`tail`: alignment bits, slice data), reading
    the bits an independent serialiser wrote for a valid value assignment of the slice segment header syntax — PPS
    resolved through the slice's pps id, SPS through that PPS's sps id, the header's reference picture set predicted
    from the SPS's sets, list-entry widths from the pictures in use — gives back exactly those values without error and
    leaves the reader exactly behind the header -/
theorem hevc_slice_roundtrip_bits (f : Nat) (sm pm : PsMap) (cap : Nat) (tr : Trace)
    (os : List Op) (e : ER) (P : Bytes) (tail : List Bool)
    (hops : ops f (HevcSlice.slice sm pm cap) [] tr = some (os, tr, [])) (hst : stopped tr = false)
    (hok : ∀ op ∈ os, op.OK) (he : e.Inv P) (habs : e.abs P = opsBits os ++ tail) :
    ∃ e' P', parse f (HevcSlice.slice sm pm cap) [] e = some (tr, e') ∧ e'.Inv P' ∧ e'.abs P' = tail ∧ e'.err = false ∧
      e'.nread + e'.rest.length = e.nread + e.rest.length :=
  HevcSlice.slice_roundtrip_bits f sm pm cap tr os e P tail hops hst hok he habs

/-- **the HEVC slice header parser terminates on every byte string** (C16), whatever the parameter sets: fuel = the
    nesting depth of the syntax term (`depthL`, a number linear in the NAL unit length: three loops end with the input,
    the others have constant bounds) -/
theorem hevc_slice_total (sm pm : PsMap) (nalu : Bytes) (f : Nat)
    (hf : depthL (HevcSlice.slice sm pm (HevcSlice.capOf nalu)) ≤ f) : HevcSlice.parseSlice f sm pm nalu ≠ .fuel :=
  HevcSlice.slice_total sm pm nalu f hf

/-! non-vacuity: a P slice (IDR NAL type is 19 here only to keep the parameter sets small) with pps id 7 → sps id 3,
    SAO, overridden reference count, explicit weights for two reference pictures -/
def exHSm : PsMap := [(3, [("chroma_format_idc", 1), ("sample_adaptive_offset_enabled_flag", 1)])]
def exHPm : PsMap := [(7, [("pps_seq_parameter_set_id", 3), ("cabac_init_present_flag", 1), ("weighted_pred_flag", 1)])]
def exHSlice : Trace := [("nal_header", 9729), ("first_slice_segment_in_pic_flag", 1), ("no_output_of_prior_pics_flag", 0),
  ("slice_pic_parameter_set_id", 7), ("slice_type", 1), ("slice_sao_luma_flag", 1), ("slice_sao_chroma_flag", 0),
  ("num_ref_idx_active_override_flag", 1), ("num_ref_idx_l0_active_minus1", 1), ("cabac_init_flag", 1),
  ("luma_log2_weight_denom", 2), ("delta_chroma_log2_weight_denom", -1), ("luma_weight_l0_flag", 1),
  ("luma_weight_l0_flag", 0), ("chroma_weight_l0_flag", 0), ("chroma_weight_l0_flag", 1), ("delta_luma_weight_l0", 5),
  ("luma_offset_l0", -7), ("delta_chroma_weight_l0", 1), ("delta_chroma_offset_l0", 2), ("delta_chroma_weight_l0", -3),
  ("delta_chroma_offset_l0", 4), ("five_minus_max_num_merge_cand", 2), ("slice_qp_delta", -3),
  ("alignment_bit_equal_to_one", 1)]
def exHSliceNalu : Bytes := [38, 1, 132, 42, 173, 200, 161, 232, 135, 16, 207, 128]

private theorem exHSlice_checked :
    TraceOK 300 (HevcSlice.slice exHSm exHPm (HevcSlice.capOf exHSliceNalu)) exHSlice ∧
      serialize 300 (HevcSlice.slice exHSm exHPm (HevcSlice.capOf exHSliceNalu)) exHSlice = some exHSliceNalu :=
  of_serializedb (by decide +kernel)

example : TraceOK 300 (HevcSlice.slice exHSm exHPm (HevcSlice.capOf exHSliceNalu)) exHSlice :=
  exHSlice_checked.1
example : serialize 300 (HevcSlice.slice exHSm exHPm (HevcSlice.capOf exHSliceNalu)) exHSlice = some exHSliceNalu ∧
    HevcSlice.parseSlice 300 exHSm exHPm exHSliceNalu = .ok exHSlice 11 := by
  exact ⟨exHSlice_checked.2, by decide +kernel⟩
/-- hostile: unknown PPS; cut inside the header -/
example : HevcSlice.parseSlice 70000 exHSm [] exHSliceNalu = .err ∧
    HevcSlice.parseSlice 70000 exHSm exHPm (exHSliceNalu.take 6) = .err := by decide +kernel

end HevcSlice

end Mp4ff.C15b
