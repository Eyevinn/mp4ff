import Mp4ff.Model.Boxes
import Mp4ff.Expect.Facts
import Mp4ff.Lemmas.Layout
import Mp4ff.Props.C01b
import Mp4ff.Expect.Transcribed
import Mp4ff.Props.C01c
/-!
# C01 — decode then encode is lossless outside reserved fields, and a fixed point
Property theorems (proofs in `Mp4ff/Lemmas/Layout.lean`).  The generic theorems hold for EVERY layout term
and every byte string; the 64 box layouts of `Model/Boxes.lean` are instances, tied to the Go code by the
`box.rt` correspondence.
-/
namespace Mp4ff.Boxes.C01
open Mp4ff.Layout

/-- every hand-modelled box type is a registered type (coverage accounting against the current source) -/
theorem modelled_are_registered :
    (specs.map (·.1)).all (Generated.decoderKeys.contains ·) = true := Expect.modelled_are_registered

/-- **decode ∘ encode = id** for every layout: the trace written is the trace read back, leaving what follows -/
theorem decode_encode (f : Nat) (L : List Syn) (acc src : Trace) (tail : Bytes) (h : Fits f L acc src tail)
    (bs : Bytes) (a s : Trace) (he : encode f L acc src = some (bs, a, s)) :
    decode f L acc (bs ++ tail) = some (a, tail) := Layout.decode_encode f L acc src tail h bs a s he

/-- **encode ∘ decode = id outside the computed don't-care positions, and a fixed point**, for every layout and
    every accepted byte string: the re-encoding has exactly the consumed length, equals the input at every position
    not produced by a reserved field, and decodes to the same values again -/
theorem encode_decode (f : Nat) (L : List Syn) (acc : Trace) (bs : Bytes) (a : Trace) (rest : Bytes)
    (hb : IsBytes bs) (hd : decode f L acc bs = some (a, rest)) :
    ∃ out dc p, encode f L acc (a.drop acc.length) = some (out, a, []) ∧
      dontCare f L acc bs 0 = some (dc, a, rest, p) ∧ p = out.length ∧
      out.length + rest.length = bs.length ∧
      (∀ i, i < out.length → i ∉ dc → out[i]? = bs[i]?) ∧
      decode f L acc (out ++ rest) = some (a, rest) := Layout.encode_decode f L acc bs a rest hb hd

/-- **single-box round trip** (`DecodeBox` then `Encode`, 8-byte header) for the modelled box types: size reported =
    bytes written = header size field; type unchanged; output equals the input outside the don't-care positions
    (trailing payload bytes the decoder ignores are dropped); and when nothing was dropped the output is a fixed point -/
theorem roundTrip_spec (bs : Bytes) (hb : IsBytes bs) (size : Nat) (enc : Bytes) (dc : List Nat)
    (h8 : beVal (bs.take 4) ≠ 1) (hsz : bs.length < 2 ^ 32) (h : roundTrip bs = .ok size enc dc) :
    enc.length = size ∧ beVal (enc.take 4) = size ∧ (enc.drop 4).take 4 = (bs.drop 4).take 4 ∧
    enc.length ≤ bs.length ∧
    (∀ i, 8 ≤ i → i < enc.length → i ∉ dc → enc[i]? = bs[i]?) ∧
    (enc.length = bs.length → ∃ dc', roundTrip enc = .ok size enc dc') :=
  Boxes.roundTrip_spec bs hb size enc dc h8 hsz h

/-- the Go functions the models of this property transcribe (committed table `spec/transcribed.json`, checked against
    the current source by the extractor on every run) all still exist -/
theorem model_sources_exist :
    (["Aac.lean", "Bits.lean", "Boxes.lean", "Tree.lean"] : List String).all Mp4ff.Expect.presentFor = true := by decide +kernel

end Mp4ff.Boxes.C01
