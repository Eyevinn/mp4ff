import Mp4ff.Model.SampleTables
import Mp4ff.Lemmas.StblSamples
import Mp4ff.Lemmas.StblChunks
import Mp4ff.Expect.Transcribed
/-!
# C09 — sample-table queries agree with the ISO 14496-12 table semantics
Property theorems (specification definitions and proofs in `Mp4ff/Lemmas/StblSamples.lean`, `StblChunks.lean`): every query
of the transcribed Go code equals the naive per-sample expansion of the tables, for every sample number, every
interval, every chunk and every time.
-/
namespace Mp4ff.Stbl.C09

/-- the naive expansion of a run-length table has one value per sample -/
theorem expandRuns_length {α} (counts : List Nat) (vals : List α) (h : counts.length = vals.length) :
    (expandRuns counts vals).length = counts.sum := by
  induction counts generalizing vals with
  | nil => simp [expandRuns]
  | cons c cs ih =>
    cases vals with
    | nil => simp at h
    | cons v vs =>
      rw [expandRuns_cons, List.length_append, List.length_replicate, ih vs (by simpa using h), List.sum_cons]

/-- **decode time and duration** of every sample 1..N = sum of the earlier durations / own duration -/
theorem getDecodeTime_spec (b : Stts) (h : b.OK) (n : Nat) (h1 : 1 ≤ n) (hn : n ≤ b.durations.length) :
    b.getDecodeTime n = some (naiveDecodeTime b.durations n, b.durations.getD (n - 1) 0) :=
  Stbl.getDecodeTime_spec b h n h1 hn

theorem getDur_spec (b : Stts) (h : b.OK) (n : Nat) (h1 : 1 ≤ n) (hn : n ≤ b.durations.length) :
    b.getDur n = some (b.durations.getD (n - 1) 0) := Stbl.getDur_spec b h n h1 hn

/-- **sample at a time**: the least k in 1..N+1 whose start time is ≥ t (N+1 = the virtual sample at the end of
    the track, as documented and unit-tested upstream), for every t before the end; from the end on, an error -/
theorem getSampleNrAtTime_spec (b : Stts) (h : b.OK) (hpos : ∀ d ∈ b.delta, 0 < d) (hc : ∀ c ∈ b.count, 0 < c)
    (hN : b.durations.length + 1 < U32) (t : Nat) :
    (t < b.durations.sum →
      ∃ k, b.getSampleNrAtTime t = some k ∧ 1 ≤ k ∧ k ≤ b.durations.length + 1 ∧
        t ≤ startTime b.durations k ∧ ∀ j, 1 ≤ j → j < k → startTime b.durations j < t) ∧
    (b.durations.sum ≤ t → b.getSampleNrAtTime t = none) :=
  Stbl.getSampleNrAtTime_spec b h hpos hc hN t

/-- **composition offset** (ctts v0/v1, zero-count entries allowed; binary search over cumulative ends) -/
theorem getCto_spec (counts : List Nat) (offs : List Int) (hl : counts.length = offs.length)
    (hs : counts.sum < U32) (n : Nat) (h1 : 1 ≤ n) (hn : n ≤ counts.sum) :
    (Ctts.ofCounts counts offs).getCto n = (expandRuns counts offs)[n - 1]? :=
  Stbl.getCto_spec counts offs hl hs n h1 hn

/-- **sync status** -/
theorem isSyncSample_spec (nums : List Nat) (hs : nums.Pairwise (· < ·)) (n : Nat) :
    isSyncSample nums n = decide (n ∈ nums) := Stbl.isSyncSample_spec nums hs n

/-- **size and total size** (uniform or explicit stsz) -/
theorem getSampleSize_spec (b : Stsz) (h : b.OK) (n : Nat) (h1 : 1 ≤ n) (hn : n ≤ b.sampleNumber) :
    b.getSampleSize n = some (b.sizeOf n) := Stbl.getSampleSize_spec b h n h1 hn

theorem getTotalSampleSize_spec (b : Stsz) (h : b.OK) (a c : Nat) (h1 : 1 ≤ a) (hac : a ≤ c + 1) (hn : c ≤ b.sampleNumber) :
    b.getTotalSampleSize a c = some (((List.range' a (c + 1 - a)).map b.sizeOf).sum) :=
  Stbl.getTotalSampleSize_spec b h a c h1 hac hn

/-- **chunk offset** (stco / co64) -/
theorem getOffset_spec (offs : List Nat) (c : Nat) :
    getOffset offs c = if 1 ≤ c ∧ c ≤ offs.length then offs[c - 1]? else none := Stbl.getOffset_spec offs c

/-- **chunk contents** -/
theorem getChunk_spec (raw : List (Nat × Nat × Nat)) (h : RawOK raw) (cmax c : Nat) (hw : NoWrap raw cmax)
    (h1 : 1 ≤ c) (hc : c ≤ cmax) :
    (Stsc.ofRaw raw).getChunk c = some ⟨c, firstSampleOf raw c, spcOf raw c⟩ :=
  Stbl.getChunk_spec raw h cmax c hw h1 hc

/-- **sample description id of a chunk** (= of every sample of the chunk): the id of the last stsc entry whose
    first_chunk is not above the chunk number -/
theorem getSampleDescriptionID_spec (raw : List (Nat × Nat × Nat)) (h : RawOK raw) (cmax c : Nat) (hw : NoWrap raw cmax)
    (h1 : 1 ≤ c) (hc : c ≤ cmax) :
    (Stsc.ofRaw raw).getSampleDescriptionID c = some (sdiOf raw c) :=
  Stbl.getSampleDescriptionID_spec raw h cmax c hw h1 hc

/-- **chunk of a sample** -/
theorem chunkNrFromSampleNr_spec (raw : List (Nat × Nat × Nat)) (h : RawOK raw) (cmax c n : Nat) (hw : NoWrap raw cmax)
    (h1 : 1 ≤ c) (hc : c ≤ cmax) (hlo : firstSampleOf raw c ≤ n) (hhi : n < firstSampleOf raw (c + 1)) :
    (Stsc.ofRaw raw).chunkNrFromSampleNr n = some (c, firstSampleOf raw c) :=
  Stbl.chunkNrFromSampleNr_spec raw h cmax c n hw h1 hc hlo hhi

/-- **containing chunks of a sample interval** -/
theorem getContainingChunks_spec (raw : List (Nat × Nat × Nat)) (h : RawOK raw) (cmax ca cb a b : Nat)
    (hw : NoWrap raw cmax) (h1 : 1 ≤ ca) (hab : a ≤ b) (hcab : ca ≤ cb) (hc : cb ≤ cmax)
    (ha1 : firstSampleOf raw ca ≤ a) (ha2 : a < firstSampleOf raw (ca + 1))
    (hb1 : firstSampleOf raw cb ≤ b) (hb2 : b < firstSampleOf raw (cb + 1)) :
    (Stsc.ofRaw raw).getContainingChunks a b =
      some ((List.range' ca (cb + 1 - ca)).map fun c => ⟨c, firstSampleOf raw c, spcOf raw c⟩) :=
  Stbl.getContainingChunks_spec raw h cmax ca cb a b hw h1 hab hcab hc ha1 ha2 hb1 hb2

/-- **byte ranges of a sample interval**: concatenated, they are exactly the bytes of samples a..b in order -/
theorem getRanges_spec (t : Tables) (raw : List (Nat × Nat × Nat)) (hraw : t.stsc = Stsc.ofRaw raw) (h : RawOK raw)
    (hw : NoWrap raw t.offsets.length)
    (hsz : (t.stsz.uniform = 0 → t.stsz.sizes.length = t.stsz.sampleNumber) ∧ (t.stsz.uniform ≠ 0 → t.stsz.sizes = []))
    (hN : firstSampleOf raw (t.offsets.length + 1) = t.stsz.sampleNumber + 1)
    (hbytes : ∀ c, 1 ≤ c → c ≤ t.offsets.length →
       t.offsets.getD (c - 1) 0 + t.stsz.sampleNumber * (if t.stsz.uniform ≠ 0 then t.stsz.uniform else t.stsz.sizes.foldl max 0) < U64)
    (a b : Nat) (h1 : 1 ≤ a) (hab : a ≤ b) (hb : b ≤ t.stsz.sampleNumber) :
    ∃ rs, t.getRanges a b = some rs ∧
      rs.flatMap positions =
        (List.range' a (b + 1 - a)).flatMap fun n =>
          positions (sampleOffset raw t.offsets t.stsz (chunkOfSample raw t.offsets.length n) n,
                     if t.stsz.uniform ≠ 0 then t.stsz.uniform else t.stsz.sizes.getD (n - 1) 0) :=
  Stbl.getRanges_spec t raw hraw h hw hsz hN hbytes a b h1 hab hb

/-! non-vacuity -/
example : RawOK [(1, 3, 1), (3, 2, 1), (4, 5, 2), (6, 1, 1)] := by
  unfold RawOK; decide
example : (⟨[3, 2, 1], [10, 14, 5]⟩ : Stts).OK := by
  refine ⟨rfl, ?_⟩
  decide

/-- the Go functions the models of this property transcribe (committed table `spec/transcribed.json`, checked against
    the current source by the extractor on every run) all still exist -/
theorem model_sources_exist :
    (["SampleTables.lean"] : List String).all Mp4ff.Expect.presentFor = true := by decide +kernel

end Mp4ff.Stbl.C09
