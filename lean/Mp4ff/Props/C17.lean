import Mp4ff.Model.Sei
import Mp4ff.Lemmas.SeiFraming
import Mp4ff.Lemmas.SeiTyped
import Mp4ff.Expect.Transcribed
/-!
# C17 — SEI messages survive write/parse round trips
(Proofs in `Mp4ff/Lemmas/SeiFraming.lean` and `Mp4ff/Lemmas/SeiTyped.lean`.)
-/
namespace Mp4ff.Sei.C17
open Mp4ff.Bits

/-- the fields `TimeCodeSEI.Payload` writes for a clock occupy exactly the bits `Size()` counts -/
theorem clock_fields_bits (c : ClockTS) : ((c.fields.map (·.1)).sum) = c.nrBits := c.fields_width

/-- **SEI framing round trip**: writing any non-empty list of SEI messages — any payload types incl. ≥ 255,
    any sizes incl. 0 and ≥ 255, any payload bytes incl. ones that need emulation prevention and payloads
    ending in 00 — and extracting from the result returns the same (type, payload) list, with no error and no
    missing-trailing-bits condition -/
theorem sei_framing (msgs : List Msg) (hne : msgs ≠ []) (hok : ∀ m ∈ msgs, MsgOK m) :
    extractSEI (writeSEI msgs) = (msgs, none) := Sei.sei_framing msgs hne hok

/-- **SEI NAL unit round trip** (`avc.ParseSEINalu`, `hevc.ParseSEINalu`): a NAL unit made of an SEI NAL header
    (AVC: one byte of type 6; HEVC: two bytes, type 39 or 40) and the written message list parses back to that list:
    every message once, in order, with its own type and payload -/
theorem sei_nalu_roundtrip (c : Codec) (hdr : Bytes) (msgs : List Msg) (hne : msgs ≠ []) (hok : ∀ m ∈ msgs, MsgOK m)
    (hl : hdr.length = c.hdrLen) (hsei : isSEINalu c hdr = true) :
    parseSEINalu c (hdr ++ writeSEI msgs) = some (msgs, none) := by
  have hfr := Sei.sei_framing msgs hne hok
  cases c with
  | avc =>
    match hdr, hl, hsei with
    | [h0], _, hsei =>
      have h : isSEINalu .avc (h0 :: writeSEI msgs) = true := by simpa [isSEINalu] using hsei
      simp [parseSEINalu, h, Codec.hdrLen, hfr]
  | hevc =>
    match hdr, hl, hsei with
    | [h0, h1], _, hsei =>
      have h : isSEINalu .hevc (h0 :: h1 :: writeSEI msgs) = true := by simpa [isSEINalu] using hsei
      simp [parseSEINalu, h, Codec.hdrLen, hfr]

/-- what is written is the escaped form of type/size/payload bytes followed by the 0x80 trailing byte -/
theorem writeSEI_shape (msgs : List Msg) (hok : ∀ m ∈ msgs, MsgOK m) :
    writeSEI msgs = esc 0 (msgsBytes msgs ++ [0x80]) := Sei.writeSEI_eq msgs fun m hm => (hok m hm).bytes

/-- **time code (SEI 136)**: serialise → decode is the identity and `Size()` equals the serialised length, for
    0..3 clocks with every flag combination and time-offset lengths 0..31 (when the bit count is a multiple of
    8 the final marker bit does not fit the `Size()`-sized writer and is dropped: shown harmless here) -/
theorem timeCode_roundtrip (clocks : List ClockTS) (hn : clocks.length ≤ 3) (hc : ∀ c ∈ clocks, c.Canon) :
    decodeTimeCode (timeCodePayload clocks) = (clocks, false) ∧
    (timeCodePayload clocks).length = timeCodeSize clocks := Sei.timeCode_roundtrip clocks hn hc

/-- **mastering display colour volume (SEI 137)** -/
theorem mdcv_roundtrip (m : MDCV) (h : m.OK) :
    decodeMDCV (mdcvPayload m) = some m ∧ (mdcvPayload m).length = 24 := Sei.mdcv_roundtrip m h

/-- **content light level (SEI 144)** -/
theorem cll_roundtrip (a b : Nat) (ha : a < 65536) (hb : b < 65536) :
    decodeCLL (cllPayload a b) = some (a, b) ∧ (cllPayload a b).length = 4 := Sei.cll_roundtrip a b ha hb

/-- **AVC picture timing (SEI 1)**: serialise → decode (with the HRD lengths and time offset length signalled in
    the SPS) is the identity, signed time offsets included, and `Size()` equals the serialised length -/
theorem picTiming_roundtrip (tol : Nat) (p : PicTimingAvc) (h : p.OK tol) :
    decodePicTimingAvc (picTimingPayload p) (p.hrd.map fun x => (x.2.2.1, x.2.2.2)) tol = some (p, false) ∧
    (picTimingPayload p).length = picTimingSize p := Sei.picTiming_roundtrip tol p h

example : (⟨17, 300, 0, 0, 59, true, false, false, true, false, false, true, false, 4, 5⟩ : ClockTS).Canon := by
  simp [ClockTS.Canon]

example : MsgOK ⟨70000, [0, 0, 1, 0, 0]⟩ := by simp [MsgOK, IsBytes]
example : isSEINalu .avc [0x66] = true := by decide
example : isSEINalu .hevc [0x50, 0x01] = true := by decide

/-- the Go functions the models of this property transcribe (committed table `spec/transcribed.json`, checked against
    the current source by the extractor on every run) all still exist -/
theorem model_sources_exist :
    (["Bits.lean", "Sei.lean"] : List String).all Mp4ff.Expect.presentFor = true := by decide +kernel

end Mp4ff.Sei.C17
