import Mp4ff.Model.BoxTree
import Mp4ff.Expect.Facts
import Mp4ff.Lemmas.Layout
import Mp4ff.Expect.Transcribed
import Mp4ff.Props.C02b
/-!
# C02 — Size() equals bytes written equals the header size field, at every level
-/
namespace Mp4ff.BoxTree.C02

theorem beBytes_length (n v : Nat) : (beBytes n v).length = n := Mp4ff.beBytes_length n v

mutual
/-- **Size() = bytes written**, at every nesting level -/
theorem size_eq_length : (t : Tree) → t.WF → t.size = t.enc.length
  | .leaf ty p, h => by
      simp only [Tree.WF] at h
      simp [Tree.size, Tree.enc, beBytes_length, h]; omega
  | .node ty cs, h => by
      simp only [Tree.WF] at h
      have := sizes_eq_length cs h.2
      simp [Tree.size, Tree.enc, beBytes_length, h.1]; omega
theorem sizes_eq_length : (cs : List Tree) → WFs cs → sizes cs = (encs cs).length
  | [], _ => by simp [sizes, encs]
  | c :: cs, h => by
      simp only [WFs] at h
      have h1 := size_eq_length c h.1
      have h2 := sizes_eq_length cs h.2
      simp [sizes, encs]; omega
end

/-- **a container's size is the header plus the sum of its children** -/
theorem container_size (ty : Bytes) (cs : List Tree) : (Tree.node ty cs).size = 8 + (cs.map Tree.size).sum := by
  have : ∀ l : List Tree, sizes l = (l.map Tree.size).sum := by
    intro l; induction l with
    | nil => rfl
    | cons c cs ih => simp [sizes, ih]
  simp [Tree.size, this]

/-- **the written header size field is the length of the box** (first four bytes, big endian) -/
theorem header_field (t : Tree) (h : t.WF) : t.enc.take 4 = beBytes 4 t.enc.length := by
  rw [← size_eq_length t h]
  cases t <;> simp [Tree.enc, Tree.size, beBytes_length]

/-- **per-box sizes (modelled box types)**: whatever `DecodeBox` + `Encode` output, the size the box reports, the
    number of bytes written and the big-endian size field in the written header are one and the same number -/
theorem box_size_eq_written (bs : Bytes) (hb : IsBytes bs) (size : Nat) (enc : Bytes) (dc : List Nat)
    (h8 : beVal (bs.take 4) ≠ 1) (hsz : bs.length < 2 ^ 32) (h : Boxes.roundTrip bs = .ok size enc dc) :
    enc.length = size ∧ beVal (enc.take 4) = size :=
  let r := Boxes.roundTrip_spec bs hb size enc dc h8 hsz h
  ⟨r.1, r.2.1⟩

/-- source facts this property depends on: header constants -/
theorem header_constants : Generated.const_boxHeaderSize = 8 ∧ Generated.const_largeSizeLen = 8 :=
  ⟨Expect.consts.2.2.2.1, Expect.consts.2.2.2.2.1⟩

example : (Tree.node [0x6d, 0x6f, 0x6f, 0x76] [Tree.leaf [0x6d, 0x76, 0x68, 0x64] [1, 2, 3], Tree.node [0x74, 0x72, 0x61, 0x6b] []]).WF := by
  simp [Tree.WF, WFs]

/-- the Go functions the models of this property transcribe (committed table `spec/transcribed.json`, checked against
    the current source by the extractor on every run) all still exist -/
theorem model_sources_exist :
    (["Aac.lean", "Bits.lean", "BoxTree.lean", "Boxes.lean"] : List String).all Mp4ff.Expect.presentFor = true := by decide +kernel

end Mp4ff.BoxTree.C02
