import Mp4ff.Model.Protect
import Mp4ff.Lemmas.ProtectRoundtrip
import Mp4ff.Lemmas.ProtectInit
import Mp4ff.Lemmas.ProtectTrex
/-!
# C06 / C07 — the box bookkeeping of Common Encryption

Property-level theorems about the structure side of mp4/crypto.go (`EncryptFragment`, `Fragment.Encode` + `DecodeFile`,
`DecryptFragment`, `InitProtect`, `DecryptInit`) on the model `Mp4ff.Model.Protect` (boxes with sizes and offsets).
The lemmas are in `Mp4ff/Lemmas/Protect*.lean`.  The cipher side is in `Props/C06.lean` and
`Props/C07.lean`.

All statements quantify over every fragment structure: any number of boxes in the moof and in each traf, any number of
samples per trun and of sub-sample entries per sample, any box sizes and positions; the `encryptAll` statements also over
any number of trafs (the library function `encryptFrag` accepts exactly one traf with one trun).
-/
namespace Mp4ff.C06b
open Mp4ff.Protect

/-! ## examples used to show that the hypotheses can be met -/

/-- a clear one-track fragment as decoded from a file at position 100: mfhd, traf(tfhd, tfdt, trun with two samples,
    a uuid box), a free box; mdat right after the 175-byte moof -/
def exFrag : Frag :=
  { moofStart := 100
    children := [.other "mfhd" 16,
                 .traf { trackID := 1, children := [.other "tfhd" 16, .other "tfdt" 20,
                          .trun { size := 52, dataOffset := 183, writeOrder := 0, sampleSizes := [500, 600] },
                          .other "uuid" 44] },
                 .other "free" 11]
    mdatStart := 275
    mdatHdr := 8 }

/-- a clear two-track fragment built in memory (write order numbers 1, 2; offsets not set yet) -/
def exFrag2 : Frag :=
  { moofStart := 0
    children := [.other "mfhd" 16,
                 .traf { trackID := 1, children := [.other "tfhd" 16, .other "tfdt" 20,
                          .trun { size := 52, dataOffset := 0, writeOrder := 1, sampleSizes := [500, 600] }] },
                 .traf { trackID := 2, children := [.other "tfhd" 16,
                          .trun { size := 36, dataOffset := 0, writeOrder := 2, sampleSizes := [70] }, .other "abcd" 13] }]
    mdatStart := 0
    mdatHdr := 8 }

def exParams (id : Nat) : Option (Scheme × List Nat) :=
  if id = 1 then some (.cenc, [2, 1]) else if id = 2 then some (.cbcs, [0]) else none

def exDecInfo : DecInfo := [(1, some ("cenc", 16)), (2, some ("cbcs", 0))]

def exEntry : SampleEntry := { cls := .visual, kind := "avc1", children := [.other "avcC" 49, .other "btrt" 20] }

def exMoov : List MoovChild := [.other "mvhd" 108, .trak { trackID := 1, entries := [exEntry] }, .other "mvex" 40]

/-! ## C06: decrypting what was encrypted restores the structure -/

/-- **decrypt ∘ write ∘ `EncryptFragment` = write.**  For every clear fragment the library function accepts: the
    encrypted fragment, written and decoded again, is accepted by the decoder (its saio check passes) and by
    `DecryptFragment`, and the result is the clear fragment as written: the same boxes in the same order with the same
    sizes, every trun data offset and the mdat position those of the clear fragment. -/
theorem decrypt_write_encrypt (sc : Scheme) (subs : List Nat) (di : DecInfo) (f g : Frag)
    (hclear : f.Clear) (henc : encryptFrag sc subs f = some g)
    (hdi : ∀ t ∈ f.trafs, ∃ s iv, findTrack di t.trackID = some (s, iv) ∧ (s = "cenc" ∨ s = "cbcs"))
    (hfit : f.moofStart + g.moofSize < 2 ^ 64) :
    ∃ gl, layout g = some gl ∧ decryptFrag di gl = some (clearLayout f) := by
  obtain ⟨t, r, ht, hr, henc⟩ := encryptFrag_some henc
  have htr : f.allTruns = [r] := allTruns_one ht hr
  exact roundtrip (fun _ => some (sc, subs)) di f g hclear hdi henc
    (htr ▸ offsetsUnmanaged_of_length_le_one [r] (Nat.le_refl 1)) hfit

/-- ... and a fragment that came from a file (already laid out as written) is restored exactly -/
theorem decrypt_write_encrypt_decoded (sc : Scheme) (subs : List Nat) (di : DecInfo) (f g : Frag)
    (hclear : f.Clear) (hw : AsWritten f) (henc : encryptFrag sc subs f = some g)
    (hdi : ∀ t ∈ f.trafs, ∃ s iv, findTrack di t.trackID = some (s, iv) ∧ (s = "cenc" ∨ s = "cbcs"))
    (hfit : f.moofStart + g.moofSize < 2 ^ 64) :
    ∃ gl, layout g = some gl ∧ decryptFrag di gl = some f := by
  have := decrypt_write_encrypt sc subs di f g hclear henc hdi hfit
  unfold AsWritten at hw
  rwa [hw] at this

example : exFrag.Clear ∧ AsWritten exFrag ∧
    (∃ g, encryptFrag .cenc [2, 1] exFrag = some g ∧ exFrag.moofStart + g.moofSize < 2 ^ 64) ∧
    (∀ t ∈ exFrag.trafs, ∃ s iv, findTrack exDecInfo t.trackID = some (s, iv) ∧ (s = "cenc" ∨ s = "cbcs")) := by
  refine ⟨rfl, (by unfold AsWritten; rfl), ⟨_, rfl, by decide⟩, ?_⟩
  intro t ht
  simp [exFrag, Frag.trafs, trafsOf] at ht
  subst ht
  exact ⟨"cenc", 16, rfl, Or.inl rfl⟩

/-- the same for any number of trafs, each protected with its own scheme and sub-sample map (or left clear) -/
theorem decrypt_write_encryptAll (ps : Nat → Option (Scheme × List Nat)) (di : DecInfo) (f g : Frag)
    (hclear : f.Clear) (hcov : Covers di ps f.children) (henc : encryptAll ps f = some g)
    (hman : offsetsUnmanaged f.allTruns = false) (hfit : f.moofStart + g.moofSize < 2 ^ 64) :
    ∃ gl, layout g = some gl ∧ decryptFrag di gl = some (clearLayout f) :=
  roundtrip ps di f g hclear hcov henc hman hfit

example : exFrag2.Clear ∧ offsetsUnmanaged exFrag2.allTruns = false ∧
    (∃ g, encryptAll exParams exFrag2 = some g ∧ exFrag2.moofStart + g.moofSize < 2 ^ 64) ∧
    Covers exDecInfo exParams exFrag2.children := by
  refine ⟨rfl, rfl, ⟨_, rfl, by decide⟩, ?_⟩
  intro t ht
  simp [exFrag2, trafsOf] at ht
  rcases ht with rfl | rfl
  · exact ⟨"cenc", 16, rfl, Or.inl rfl⟩
  · exact ⟨"cbcs", 0, rfl, Or.inr rfl⟩

/-- **encryption keeps every box that is not protection signalling**: dropping saiz / saio / senc (and pssh) from the
    encrypted moof gives the clear moof's children, in order and unchanged (for a clear fragment: exactly its children);
    no trun is touched in memory -/
theorem encrypt_keeps_boxes (ps : Nat → Option (Scheme × List Nat)) (f g : Frag) (henc : encryptAll ps f = some g) :
    stripM g.children = stripM f.children ∧ (f.Clear → stripM g.children = f.children) ∧ g.allTruns = f.allTruns ∧
    g.moofStart = f.moofStart ∧ g.mdatStart = f.mdatStart ∧ g.mdatHdr = f.mdatHdr := by
  obtain ⟨l', h, rfl⟩ := encryptAll_some henc
  have h1 := stripM_encChildren h
  exact ⟨h1, fun hc => by rw [h1]; exact stripM_clear _ hc, allTruns_encChildren h, rfl, rfl, rfl⟩

theorem encryptFrag_keeps_boxes (sc : Scheme) (subs : List Nat) (f g : Frag) (henc : encryptFrag sc subs f = some g) :
    stripM g.children = stripM f.children ∧ (f.Clear → stripM g.children = f.children) ∧ g.allTruns = f.allTruns := by
  obtain ⟨_, _, _, _, henc⟩ := encryptFrag_some henc
  have := encrypt_keeps_boxes _ f g henc
  exact ⟨this.1, this.2.1, this.2.2.1⟩

/-- **data offsets after writing**: every trun data offset of the written encrypted fragment is the one of the written
    clear fragment plus exactly the growth of the moof, and addresses the same byte of the mdat payload -/
theorem offsets_grow_with_moof (ps : Nat → Option (Scheme × List Nat)) (f g fl gl : Frag)
    (henc : encryptAll ps f = some g) (hman : offsetsUnmanaged f.allTruns = false)
    (hfl : layout f = some fl) (hgl : layout g = some gl) :
    f.moofSize ≤ g.moofSize ∧
    fl.allTruns = f.allTruns.map (trunLayout f.moofSize f.mdatHdr f.allTruns) ∧
    gl.allTruns = f.allTruns.map (trunLayout g.moofSize f.mdatHdr f.allTruns) ∧
    ∀ r, (trunLayout g.moofSize f.mdatHdr f.allTruns r).dataOffset
            = (trunLayout f.moofSize f.mdatHdr f.allTruns r).dataOffset + ((g.moofSize - f.moofSize : Nat) : Int) ∧
         gl.payloadPos (trunLayout g.moofSize f.mdatHdr f.allTruns r)
            = fl.payloadPos (trunLayout f.moofSize f.mdatHdr f.allTruns r) := by
  obtain ⟨l', henc', rfl⟩ := encryptAll_some henc
  have htr : Frag.allTruns { f with children := l' } = f.allTruns := allTruns_encChildren henc'
  have hle := msizes_encChildren_le henc'
  obtain ⟨ftruns, fpos⟩ := layout_payload hfl hman
  obtain ⟨gtruns, gpos⟩ := layout_payload hgl (htr ▸ hman)
  rw [htr] at gtruns gpos
  refine ⟨by simp only [Frag.moofSize]; omega, ftruns, gtruns, fun r => ⟨?_, (gpos r).trans (fpos r).symm⟩⟩
  rw [trunLayout_dataOffset hman, trunLayout_dataOffset hman]
  simp only [Frag.moofSize]
  omega

example : ∃ g fl gl, encryptAll exParams exFrag2 = some g ∧ layout exFrag2 = some fl ∧ layout g = some gl :=
  ⟨_, _, _, rfl, rfl, rfl⟩

/-- **`DecryptFragment` on any fragment it accepts** (third-party content, any number of trafs, protected or not, pssh
    boxes in the moof): with `removed` = the number of bytes by which the moof shrinks, every box that is not protection
    signalling is still present, in order and unchanged, except that each trun data offset is smaller by exactly
    `removed`; when the mdat follows the moof its position moves by the same amount, so every data offset still addresses
    the same payload byte -/
theorem decrypt_keeps_boxes_and_offsets (di : DecInfo) (f g : Frag) (h : decryptFrag di f = some g) :
    ∃ removed, removed + g.moofSize = f.moofSize ∧
      stripM g.children = mapTruns (shiftTrun removed) (stripM f.children) ∧
      g.allTruns = f.allTruns.map (shiftTrun removed) ∧
      (f.mdatStart > f.moofStart → f.moofStart + f.moofSize ≤ f.mdatStart → f.mdatStart < 2 ^ 64 →
        ∀ r, g.payloadPos (shiftTrun removed r) = f.payloadPos r) :=
  decryptFrag_spec h

/-! ## C07: the encrypted fragment is well-formed Common Encryption -/

/-- **what `EncryptFragment` writes**: see `Mp4ff.Protect.encryptFrag_wellformed` — saiz, saio, senc appended to the
    traf in this order; saio offset = position of the first senc entry from the moof start; senc sample count = trun
    sample count; each saiz entry (table or default) = IV size + (2 + 6·sub-samples when sub-samples are used) ≤ 255;
    senc size = 16 + the sum of these entries; saiz sample count = trun sample count (0 when no sample has any auxiliary
    information: constant IV and no sub-samples) -/
theorem encrypted_wellformed {sc : Scheme} {subs : List Nat} {f g : Frag} (h : encryptFrag sc subs f = some g) :
    ∃ t r a s p q,
      f.trafs = [t] ∧ t.truns = [r] ∧ auxBoxes sc subs = some (a, s) ∧
      trafsAt g.children 8 = [(p, addProt a ((q + 16 : Nat) : Int) s t)] ∧
      (q, TrafChild.senc s) ∈ childOffsets (addProt a ((q + 16 : Nat) : Int) s t).children (p + 8) ∧
      s.sampleCount = r.sampleSizes.length ∧ subs.length = r.sampleSizes.length ∧
      s.size = 16 + (subs.map (sampleInfoSize sc.ivLen)).sum ∧
      (∀ i, (hi : i < subs.length) → a.entry i = sampleInfoSize sc.ivLen subs[i] ∧ sampleInfoSize sc.ivLen subs[i] ≤ 255) ∧
      a.sampleCount = (if sc.ivLen = 0 ∧ (∀ n ∈ subs, n = 0) then 0 else r.sampleSizes.length) :=
  encryptFrag_wellformed h

example : ∃ g, encryptFrag .cbcs [3, 1] exFrag = some g := ⟨_, rfl⟩

/-- the length of the IV the caller passes (8 or 16 bytes, anything else is refused) does not enter the bookkeeping:
    the sizes that are checked and the sizes that are written are those of the 16-byte IV stored per sample (cenc) -/
theorem callerIV_irrelevant {ivLen : Nat} {sc : Scheme} {subs : List Nat} {f g : Frag}
    (h : encryptFragIV ivLen sc subs f = some g) : (ivLen = 8 ∨ ivLen = 16) ∧ encryptFrag sc subs f = some g := by
  unfold encryptFragIV at h
  split at h
  · exact ⟨by assumption, h⟩
  · cases h

/-- **the auxiliary-information sizes and offset describe the per-sample entries actually written**, whatever IV length
    the caller used: every saiz entry is the byte length of that sample's senc entry (IV as stored + 2 + 6 per
    sub-sample entry when sub-samples are used) and fits the one-byte field without wrapping; the saio offset is 16
    bytes into the senc box (at `q`), and offset + the sum of the saiz entries is exactly the end of the senc box.
    A fragment with a sample whose entry would need more than 255 bytes is refused (`encryptFragIV … = none`):
    see the examples below. -/
theorem aux_describes_written {ivLen : Nat} {sc : Scheme} {subs : List Nat} {f g : Frag}
    (h : encryptFragIV ivLen sc subs f = some g) :
    ∃ t a s p q,
      trafsAt g.children 8 = [(p, addProt a ((q + 16 : Nat) : Int) s t)] ∧
      (q, TrafChild.senc s) ∈ childOffsets (addProt a ((q + 16 : Nat) : Int) s t).children (p + 8) ∧
      (∀ i, (hi : i < subs.length) → a.entry i = sampleInfoSize sc.ivLen subs[i] ∧ a.entry i ≤ 255) ∧
      (q + 16) + ((List.range subs.length).map a.entry).sum = q + s.size := by
  obtain ⟨t, _, a, s, p, q, -, -, haux, placed, sencAt, -⟩ := encrypted_wellformed (callerIV_irrelevant h).2
  have hb := auxBoxes_spec haux
  refine ⟨t, a, s, p, q, placed, sencAt,
    fun i hi => ⟨hb.entry i hi, hb.entry i hi ▸ hb.entryLe _ (List.getElem_mem hi)⟩, ?_⟩
  have : (List.range subs.length).map a.entry = subs.map (sampleInfoSize sc.ivLen) := by
    apply List.ext_getElem (by simp)
    intro i h1 h2
    simp only [List.length_map, List.length_range] at h1
    simp [hb.entry i h1]
  rw [this, hb.sencSize]
  omega

/-- 8-byte caller IV, cenc: 39 sub-sample entries fit (16 + 2 + 234 = 252), 40 do not (258): refused, as with a
    16-byte IV; cbcs (no IV stored): 42 fit (254), 43 do not (260); other IV lengths are refused -/
example : (encryptFragIV 8 .cenc [39, 1] exFrag).isSome = true ∧ encryptFragIV 8 .cenc [40, 1] exFrag = none ∧
    encryptFragIV 16 .cenc [40, 1] exFrag = none ∧ (encryptFragIV 8 .cbcs [42, 1] exFrag).isSome = true ∧
    encryptFragIV 8 .cbcs [43, 1] exFrag = none ∧ encryptFragIV 12 .cenc [1, 1] exFrag = none := by decide

/-- the same per traf for `encryptAll` (any number of trafs): each traf with parameters gets the three boxes, its saio
    offset 16 bytes into its own senc box -/
theorem encryptAll_trafs (ps : Nat → Option (Scheme × List Nat)) (f g : Frag) (henc : encryptAll ps f = some g) :
    AllTwo (fun t (pt : Nat × Traf) => EncTraf ps pt.1 t pt.2) f.trafs (trafsAt g.children 8) := by
  obtain ⟨l', h, rfl⟩ := encryptAll_some henc
  exact encChildren_trafs h

/-- the saiz / senc pair built by the per-sample loop, for any sub-sample map it accepts -/
theorem aux_boxes {sc : Scheme} {subs : List Nat} {a : Saiz} {s : Senc} (h : auxBoxes sc subs = some (a, s)) :
    s.sampleCount = subs.length ∧
    s.size = 16 + (subs.map (sampleInfoSize sc.ivLen)).sum ∧
    (∀ i, (hi : i < subs.length) → a.entry i = sampleInfoSize sc.ivLen subs[i]) ∧
    a.sampleCount = (if sc.ivLen = 0 ∧ (∀ n ∈ subs, n = 0) then 0 else subs.length) := by
  have hb := auxBoxes_spec h
  exact ⟨hb.sencCount, hb.sencSize, hb.entry, hb.saizCount⟩

example : ∃ a s, auxBoxes .cenc [39, 1, 7] = some (a, s) := ⟨_, _, rfl⟩
/-- 40 sub-samples with a 16-byte IV do not fit the one-byte saiz entry: refused -/
example : auxBoxes .cenc [40] = none := rfl
/-- a mix of samples with and without sub-samples is refused -/
example : auxBoxes .cenc [2, 0] = none := rfl

/-- the closed form of the senc size is what the Go loop computes -/
theorem senc_size_loop (s : Senc) (h : s.subFlag = true → s.subs.length = s.sampleCount) :
    (sencLoop s.ivSize s.subFlag s.sampleCount s.subs).map (16 + ·) = some s.calcSize :=
  sencLoop_eq s h

/-! ## init segment -/

/-- **the protected sample entry**: encv / enca, the old children in order, then one sinf whose frma carries the original
    type; the entry grows by the size of the sinf -/
theorem protected_entry {sc : Scheme} {e e' : SampleEntry} (h : protectEntry sc e = some e') :
    e'.cls = e.cls ∧
    ((e.cls = .visual ∧ e'.kind = "encv") ∨ (e.cls = .audio ∧ e'.kind = "enca")) ∧
    e'.children = e.children ++ [.sinf (schemeSinf sc e.kind)] ∧
    (schemeSinf sc e.kind).frma = e.kind ∧
    e'.size = e.size + (schemeSinf sc e.kind).size := by
  obtain ⟨k, hk, rfl⟩ := protectEntry_eq h
  refine ⟨rfl, hk, rfl, (schemeSinf_fields _ _).1, ?_⟩
  simp [SampleEntry.size, EntryChild.size]
  omega

/-- **`RemoveEncryption` ∘ `InitProtect` on the sample entry = identity** (entry without a sinf of its own) -/
theorem unprotect_protect_entry {sc : Scheme} {e e' : SampleEntry} (hn : noSinf e.children = true)
    (h : protectEntry sc e = some e') : unprotectEntry e' = some (e, schemeSinf sc e.kind) :=
  unprotect_protect hn h

example : noSinf exEntry.children = true ∧ ∃ e', protectEntry .cbcs exEntry = some e' := ⟨rfl, _, rfl⟩

/-- **`DecryptInit` ∘ `InitProtect` = identity on the moov** (one trak, one clear sample entry of a supported type, no
    pssh of its own): sample entry type restored, every child of the moov and of the entry in place, the added pssh boxes
    gone; the decrypt info names the track with its scheme and per-sample IV size -/
theorem decryptInit_of_initProtect (sc : Scheme) (psshs : List Nat) (moov m' : List MoovChild) (t : Trak) (e : SampleEntry)
    (ht : traksOf moov = [t]) (hte : t.entries = [e]) (hn : noSinf e.children = true) (hp : noPsshMoov moov = true)
    (h : initProtect sc psshs moov = some m') :
    decryptInit m' = some (moov, [(t.trackID, some (sc.name, sc.ivLen))]) := by
  unfold initProtect at h
  rw [ht] at h
  simp only [hte] at h
  cases hpe : protectEntry sc e with
  | none => simp [hpe] at h
  | some e' =>
    simp only [hpe, Option.some.injEq] at h
    subst h
    -- the appended pssh boxes are no traks: the moov with them still has the one trak
    have ht' : traksOf (moov ++ psshs.map MoovChild.pssh) = [t] := by rw [traksOf_append_pssh, ht]
    rw [decryptInit, ← mapTraks_append_pssh, decryptTraks_one sc t e e' hn hpe hte _ ht']
    simp only [filter_append_pssh _ _ hp]

example : ∃ m', initProtect .cenc [42, 60] exMoov = some m' := ⟨_, rfl⟩

/-- init and fragment together: the decrypt info that `DecryptInit` extracts from the protected init is one with which
    `DecryptFragment` restores every fragment of that track encrypted by `EncryptFragment` -/
theorem init_then_fragments (sc : Scheme) (psshs subs : List Nat) (moov m' : List MoovChild) (t : Trak) (e : SampleEntry)
    (f g : Frag)
    (ht : traksOf moov = [t]) (hte : t.entries = [e]) (hn : noSinf e.children = true) (hp : noPsshMoov moov = true)
    (h : initProtect sc psshs moov = some m')
    (hclear : f.Clear) (hid : ∀ tr ∈ f.trafs, tr.trackID = t.trackID) (henc : encryptFrag sc subs f = some g)
    (hfit : f.moofStart + g.moofSize < 2 ^ 64) :
    ∃ di gl, decryptInit m' = some (moov, di) ∧ layout g = some gl ∧ decryptFrag di gl = some (clearLayout f) := by
  refine ⟨[(t.trackID, some (sc.name, sc.ivLen))], ?_⟩
  have hdi := decryptInit_of_initProtect sc psshs moov m' t e ht hte hn hp h
  have := decrypt_write_encrypt sc subs [(t.trackID, some (sc.name, sc.ivLen))] f g hclear henc (by
    intro tr htr
    refine ⟨sc.name, sc.ivLen, by simp [findTrack, hid tr htr], ?_⟩
    cases sc <;> simp [Scheme.name]) hfit
  obtain ⟨gl, h1, h2⟩ := this
  exact ⟨gl, hdi, h1, h2⟩

/-! ## init segment: which trex box a track is decrypted with

`DecryptFragment` reads the samples of a traf through the trex box `DecryptInit` put into the track's decrypt info.
mvex may hold the trex boxes in any order (and between other boxes); the pairing must follow the track ID. -/

/-- **the trex box of a track info carries that track's ID** — for any track IDs (repeated or not), any trex boxes
    (repeated, missing, foreign IDs) in any order; and the loop keeps the track infos as they are -/
theorem trex_pairing_by_id (ids : List Nat) (trexs : List (Nat × Nat)) :
    (pairTrexs ids trexs).map (·.1) = ids ∧
    ∀ id tag, (id, some tag) ∈ pairTrexs ids trexs → (id, tag) ∈ trexs :=
  ⟨pairTrexs_ids ids trexs, pairTrexs_byID ids trexs⟩

/-- **distinct track IDs: the loop is the lookup by track ID** (the last trex box with the ID; none when mvex has no
    such box) — position in mvex plays no role -/
theorem trex_pairing_is_lookup (ids : List Nat) (trexs : List (Nat × Nat)) (h : ids.Nodup) :
    pairTrexs ids trexs = ids.map fun id => (id, trexOf trexs id) :=
  pairTrexs_spec ids trexs h

/-- **every permutation of the trex boxes of mvex gives every track the same trex box**, namely its own (distinct track
    IDs, one trex box per track ID) -/
theorem trex_pairing_any_order (ids : List Nat) (trexs trexs' : List (Nat × Nat)) (h : ids.Nodup)
    (hn : (trexs.map (·.1)).Nodup) (hp : trexs.Perm trexs') :
    pairTrexs ids trexs' = pairTrexs ids trexs ∧
    ∀ id tag, id ∈ ids → (id, tag) ∈ trexs → (id, some tag) ∈ pairTrexs ids trexs' := by
  have hperm := pairTrexs_perm ids trexs trexs' h hn hp
  refine ⟨hperm.symm, fun id tag hid ht => ?_⟩
  rw [← hperm]
  exact pairTrexs_complete ids trexs id tag h hn hid ht

/-- traks video (ID 2), audio (ID 1); mvex holds the trex boxes audio, video: each track gets its own -/
example : pairTrexs [2, 1] [(1, 10), (2, 20)] = [(2, some 20), (1, some 10)] := by decide
example : decryptInitTrex [.other "mvhd" 108, .trak { trackID := 7, entries := [exEntry] },
    .trak { trackID := 3, entries := [exEntry] }, .other "mvex" 72] [3, 7] = some [(7, some 2), (3, some 1)] := by decide

end Mp4ff.C06b
