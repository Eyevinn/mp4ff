import Mp4ff.Lemmas.Aac
import Mp4ff.Props.C01c
import Mp4ff.Props.C02b
/-!
# C18b — the `esds` box / MPEG-4 descriptor framing (last clause of C18; C01/C02/C04 clauses for this box)

Model: `Mp4ff/Model/Esds.lean` (transcription of mp4/esds.go + mp4/descriptors.go, reader = bits.FixedSliceReader).
Proofs: `Mp4ff/Lemmas/Esds*.lean`; the C02 clause is that of `Props/C02b.lean`, the C01 clause that of `Props/C01c.lean`.
All statements are for values of ANY length (no bound other than the ones written in the hypotheses: sizes must fit
their size field, the box must fit a 32-bit size, input < 2^63 bytes).
-/
namespace Mp4ff.C18b
open Mp4ff.Esds Mp4ff.Aac

/-! ## C02 clause: Size() = bytes written -/

/-- a descriptor's `EncodeSW` writes exactly `SizeSize()` bytes (any tree, well-formed or not) -/
theorem descriptor_size (d : Desc) : (encodeDesc d).length = d.sizeSize := C02b.descriptor_size d

/-- the ES descriptor's `EncodeSW` writes exactly `SizeSize()` bytes -/
theorem es_descriptor_size (e : ES) : (encodeES e).length = e.sizeSize := C02b.es_descriptor_size e

/-- `EsdsBox.Encode` writes exactly `Size()` bytes (header 8 + version/flags 4 + ES descriptor) -/
theorem esds_size (e : Esds) : (encodeEsdsBox e).length = sizeEsds e := C02b.esds_size e

/-! ## C01 clause, direction 1: decode ∘ encode -/

/-- **decode ∘ encode = id** for every descriptor tree the encoder can emit and the decoder maps back to the same
    tree (`Esds.WF`: every size fits its size field of `sfs+1 ≤ 256` bytes — which includes the 4-byte padded
    0x80 0x80 0x80 nn form and any longer padding —, scalar fields fit their width, optional fields are absent
    when their flag is, a first optional descriptor is not of the kind that would be taken for the
    DecSpecificInfo / SLConfig slot, raw tags are not 3..6, UnknownData is empty, one byte, or starts with tag 3,
    and the box fits a 32-bit size) -/
theorem esds_decode_encode (e : Esds) (h : e.WF) : decodeEsds (encodeEsds e) = .ok e :=
  C01c.esds_decode_encode e h

/-- … and bytes after the ES descriptor (inside the box payload, the box still fitting a 32-bit size) do not
    change the result -/
theorem esds_decode_encode_tail (e : Esds) (h : e.WF) (t : Bytes) (ht : 8 + (encodeEsds e ++ t).length < 2 ^ 32) :
    decodeEsds (encodeEsds e ++ t) = .ok e :=
  C01c.esds_decode_encode_tail e h t ht

/-- the same one level down: `DecodeDescriptor` on the encoding of a well-formed descriptor followed by anything,
    with any fuel ≥ its size and any byte budget ≥ its size, returns the descriptor and stops right after it -/
theorem descriptor_decode_encode (n : Nat) (d : Desc) (t : Bytes) (p : Nat) (mx : Int) (hw : d.WF)
    (hn : d.sizeSize ≤ n) (h1 : (d.sizeSize : Int) ≤ mx) (h2 : mx < 2 ^ 62) :
    decodeDescriptor n ⟨encodeDesc d ++ t, p, none⟩ mx = (.ok d, ⟨t, p + d.sizeSize, none⟩) :=
  decodeDescriptor_enc n d t p mx hw hn h1 h2

-- the definitions to unfold as a local simp set: built once, not once per field
attribute [local simp] SzOK ES.size flagDep flagUrl flagOcr Desc.sizeSize Desc.sfsOf Desc.size dsiSizeSize slSizeSize
  sizeSizes Desc.WF DsiWF WFs UnkOK SlWF sizeEsds ES.sizeSize in
/-- what `CreateEsdsBox(decConfig)` builds is well-formed for `decConfig` of up to 104 bytes (beyond that its
    one-byte size fields cannot carry the sizes and the Go encoder silently writes them modulo 128) -/
theorem createEsds_wf (x : Bytes) (h : x.length ≤ 104) : (createEsds x).WF := by
  refine ⟨?_, ?_, ⟨?_, ?_, ?_, ?_, ?_, ?_, ?_, ?_, ?_, ?_, ?_⟩, ?_⟩ <;> simp [createEsds, createES] <;> omega

/-! ## C18, last clause -/

/-- an encoded AudioSpecificConfig is at most 10 bytes long (so `CreateEsdsBox` is within its 104-byte domain) -/
theorem asc_length (a : ASC) (bs : Bytes) (h : encodeASC a = some bs) : bs.length ≤ 10 := by
  have hot : a.objectType = 2 ∨ a.objectType = 5 ∨ a.objectType = 29 := by
    unfold encodeASC at h
    split at h
    · assumption
    · cases h
  rw [encodeASC_eq a hot] at h
  cases h
  -- at most 73 bits
  rw [Bits.BW.writeFields_length _ a.fields_le]
  have := a.fields_width
  omega

/-- **An AAC sample entry built from a configuration decodes back to that configuration**: for every configuration
    of the domain (object types 2/5/29, 16 channel configurations, any frequencies < 2^24), the esds box
    `CreateEsdsBox` builds from the encoded AudioSpecificConfig, written and decoded again, carries exactly those
    bytes as DecSpecificInfo, and they decode to the configuration (composition with `C18.asc_roundtrip`) -/
theorem aac_sample_entry_roundtrip (a : ASC) (h : AscDom a) :
    ∃ asc e, encodeASC a = some asc ∧ decodeEsds (encodeEsds (createEsds asc)) = .ok e
      ∧ e.es.dc.dsi = some (0, asc) ∧ decodeASC asc = .ok a := by
  obtain ⟨asc, h1, h2⟩ := asc_roundtrip a h
  have hl := asc_length a asc h1
  exact ⟨asc, createEsds asc, h1, esds_decode_encode _ (createEsds_wf asc (by omega)), rfl, h2⟩

/-! ## C01 clause, direction 2: encode ∘ decode -/

/-- **encode ∘ decode**: every payload the decoder accepts is `encodeEsds (decoded) ++ t`: the encoder reproduces the
    accepted bytes exactly — size-field lengths included, the padded forms are kept — up to the end of the ES
    descriptor; the only normalisation is that the bytes `t` after the ES descriptor are dropped (the committed
    C01 don't-care "payload bytes after the last field").  Holds for the worktree with fixes 4df1f4a, 24eac13 and
    0fa6982; the pinned tree additionally (a) read probes beyond the enclosing descriptor, (b) lost size-field bits
    beyond 64 and (c) wrapped the size-field length counter at 256 — see REPORT. -/
theorem esds_encode_decode (bs : Bytes) (hb : IsBytes bs) (hl : bs.length < 2 ^ 63) (e : Esds)
    (h : decodeEsds bs = .ok e) : ∃ t, bs = encodeEsds e ++ t :=
  C01c.esds_reencode_exact bs hb hl e h

/-! ## C04 clause: totality and linear size -/

/-- any fuel above the input length does not run out -/
theorem esds_decoder_total_fuel (n : Nat) (bs : Bytes) (h : bs.length < n) : decodeEsdsFuel n bs ≠ .error .fuel := by
  intro hf
  have := decodeEsdsFuel_run n bs
  rw [hf] at this
  exact Nat.not_le_of_lt h (this rfl)

/-- **totality**: `decodeEsds` is a total function (structural recursion on fuel) and the fuel it supplies,
    `input length + 1`, is never exhausted: on every byte string the result is a tree or one of the Go errors.
    (Each `DecodeDescriptor` call and each loop iteration that continues consumes at least 2 bytes — tag and one
    size byte — while the fuel drops by 1.) -/
theorem esds_decoder_total (bs : Bytes) : decodeEsds bs ≠ .error .fuel :=
  esds_decoder_total_fuel (bs.length + 1) bs (Nat.lt_succ_self _)

/-- **linear size**: 2 × (number of descriptors in the decoded tree) + all variable-length content it holds
    (DecSpecificInfo, SLConfig extra data, raw payloads, UnknownData at both levels, URL string) ≤ input length -/
theorem esds_decoded_size_linear (bs : Bytes) (e : Esds) (h : decodeEsds bs = .ok e) : e.es.weight ≤ bs.length := by
  obtain ⟨s', -, st⟩ := decodeEsds_run h
  exact Nat.le_trans (Nat.le_add_left _ _) st.1

/-! ## non-vacuity -/

/-- `CreateEsdsBox([0x11, 0x90])` (AAC-LC 48 kHz stereo) -/
example : (createEsds [0x11, 0x90]).WF := createEsds_wf _ (by decide)
example : encodeEsdsBox (createEsds [0x11, 0x90])
    = [0, 0, 0, 0x27, 0x65, 0x73, 0x64, 0x73, 0, 0, 0, 0, 3, 0x19, 0, 1, 0, 4, 0x11, 0x40, 0x15, 0, 0, 0, 0, 0, 0, 0,
       0, 0, 0, 0, 5, 2, 0x11, 0x90, 6, 1, 2] := by decide
example : sizeEsds (createEsds [0x11, 0x90]) = 39 := by decide

/-- a tree using the 4-byte padded size form (as ffmpeg writes), a URL, an OCR id, an extra raw descriptor in the
    DecoderConfig, an SLConfig with extra data, a nested DecoderConfig among the ES-level optional descriptors and
    UnknownData at both levels -/
def sample : Esds :=
  { version := 0, flags := 0,
    es := { sfs := 3, esId := 2, flags := 0x60, dependsOn := 0, url := [0x61, 0x62], ocr := 7,
            dc := ⟨3, 0x40, 0x15, 0x001800, 128000, 96000, some (3, [0x12, 0x10]), [3]⟩,
            dcOthers := [.raw 0x7f 0 [1, 2, 3]],
            sl := some (3, 2, [9]),
            others := [.dc ⟨0, 0x6b, 0x15, 0, 0, 0, none, []⟩ [], .dsi 1 [0xaa]],
            unk := [0xfe] } }

theorem sample_wf : sample.WF := by
  refine ⟨by decide, by decide, ⟨?_, by decide, by decide, by decide, by decide, by decide, ?_, ?_, ?_, ?_, ?_⟩,
    by decide⟩ <;>
    simp [sample, SzOK, ES.size, flagDep, flagUrl, flagOcr, Desc.sizeSize, Desc.sfsOf, Desc.size, dsiSizeSize,
      slSizeSize, sizeSizes, Desc.WF, DsiWF, WFs, UnkOK, SlWF, headNot]

example : decodeEsds (encodeEsds sample) = .ok sample := esds_decode_encode sample sample_wf
example : (encodeEsds sample).length = 75 := by decide
example : sample.es.weight ≤ (encodeEsds sample).length := esds_decoded_size_linear _ _ (esds_decode_encode sample sample_wf)

/-- the hypotheses of `esds_encode_decode` are satisfiable, with a non-empty dropped tail -/
example : ∃ bs e t, IsBytes bs ∧ bs.length < 2 ^ 63 ∧ decodeEsds bs = .ok e ∧ bs = encodeEsds e ++ t ∧ t ≠ [] := by
  refine ⟨encodeEsds (createEsds [0x11, 0x90]) ++ [0xde, 0xad], createEsds [0x11, 0x90], [0xde, 0xad],
    by unfold IsBytes; decide, by decide, esds_decode_encode_tail _ (createEsds_wf _ (by decide)) _ (by decide), rfl, by decide⟩

example : AscDom ⟨29, 1, 22050, 44100, true, true⟩ := by simp [AscDom]
example : decodeEsds [] = .error .tagES := by rfl
example : decodeEsds [0, 0, 0, 0, 3, 0x80] = .error (.acc .eof) := by rfl
example : decodeEsds [0, 0, 0, 0, 3, 0x19, 0, 1, 0] = .error (.exceeds 3) := by rfl

end Mp4ff.C18b
