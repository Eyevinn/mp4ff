import Mp4ff.Model.Walk
import Mp4ff.Lemmas.Walk
import Mp4ff.Lemmas.LayoutAlloc
import Mp4ff.Expect.Transcribed
import Mp4ff.Model.SencSize
/-!
# C04 — untrusted container input never crashes, hangs or balloons memory
What a theorem can carry of this property: the *structural* part of container decoding (`Model/Walk.lean`, the
transcription of DecodeHeaderSR / DecodeBoxSR / DecodeContainerChildrenSR / the DecodeFileSR loop) is a total
function on **every** byte string, needs a number of steps linear in the input, and can never produce more than
|input| / 8 boxes.  Panics, wall time and allocation of the real leaf decoders are runtime behaviour the model cannot
exhibit: they are decided by the isolated-worker harness (see DESIGN.md), and the walk model is tied to the real
decoder by the `walk` correspondence op on the same hostile inputs.
-/
namespace Mp4ff.Walk.C04

/-- **every decoded box costs at least 8 input bytes and the reader never leaves the input** -/
theorem decodeBox_bound (f : Nat) (bs : Bytes) (pos : Nat) (n : Node) (p : Nat)
    (h : decodeBox f bs pos = some (n, p)) : pos + 8 ≤ p ∧ p ≤ bs.length ∧ n.count * 8 ≤ p - pos :=
  Walk.decodeBox_bound f bs pos n p h

theorem decodeChildren_bound (f : Nat) (bs : Bytes) (rpos left : Nat) (ns : List Node) (p : Nat)
    (hr : rpos ≤ bs.length) (h : decodeChildren f bs rpos left = some (ns, p)) :
    rpos ≤ p ∧ p ≤ bs.length ∧ countAll ns * 8 ≤ p - rpos := Walk.decodeChildren_bound f bs rpos left ns p hr h

/-- **the whole decoded tree has at most |input| / 8 boxes**, for every byte string (so per-box allocation bounded
    by a constant plus its own payload gives memory linear in the input) -/
theorem walk_count_bound (bs : Bytes) (ns : List Node) (h : walk bs = some ns) : countAll ns * 8 ≤ bs.length :=
  Walk.walk_count_bound bs ns h

/-- more fuel never changes a result … -/
theorem decodeBox_fuel_mono (f g : Nat) (hfg : f ≤ g) (bs : Bytes) (pos : Nat) (r : Node × Nat)
    (h : decodeBox f bs pos = some r) : decodeBox g bs pos = some r := Walk.decodeBox_fuel_mono f g hfg bs pos r h

/-- … and **the walk terminates within |input| + 2 nested steps**: whatever a larger fuel can decode, this fuel
    already decodes (no input can make the recursion deeper or longer than its own length) -/
theorem decodeBox_fuel_sufficient (g : Nat) (bs : Bytes) (pos : Nat) (r : Node × Nat)
    (h : decodeBox g bs pos = some r) : decodeBox (bs.length + 2) bs pos = some r :=
  Walk.decodeBox_fuel_sufficient g bs pos r h

/-- **every modelled leaf-box decoder returns at most |payload| + 40 values**, whatever count fields and lengths
    the payload announces (64 box types of `Boxes.specs`; every field inside a repeated group consumes at least one
    byte, so an inflated count cannot inflate the result): allocation linear in the input -/
theorem modelled_decoders_linear (ty : String) (sp : Boxes.Spec) (hsp : (ty, sp) ∈ Boxes.specs) (f : Nat)
    (payload : Bytes) (tr : Layout.Trace) (rest : Bytes)
    (h : Layout.decode f sp.layout [] payload = some (tr, rest)) : tr.length ≤ payload.length + 40 :=
  Boxes.modelled_decoders_linear ty sp hsp f payload tr rest h

/-- the generic statement behind it: decoded values ≤ consumed bytes + the number of fields outside repeated groups -/
theorem decode_alloc_bound (f : Nat) (L : List Layout.Syn) (hL : Layout.listRepOK false L = true) (acc : Layout.Trace)
    (bs : Bytes) (tr : Layout.Trace) (rest : Bytes) (h : Layout.decode f L acc bs = some (tr, rest)) :
    rest.length ≤ bs.length ∧ tr.length ≤ acc.length + (bs.length - rest.length) + Layout.listTopFlds L :=
  Layout.decode_alloc_bound f L hL acc bs tr rest h

/-- **the second-stage senc parser (no sub-sample entries) never allocates more IV slots than the box has per-sample
    bytes**, whatever sample count the box announces and whatever IV size the context (tenc / seig) hands in; the check
    is the Go code's 64-bit product, modelled on natural numbers (`Model/SencSize.lean`, tied by the `sencsize` op) -/
theorem senc_slots_le (iv count left : Nat) : SencSize.slots iv count left ≤ left := by
  unfold SencSize.slots
  simp only
  split
  · exact Nat.zero_le _
  · split
    · exact Nat.zero_le _
    · -- the IV size is at least 1, so `count ≤ size * count`, which the size check has compared with `left`
      rename_i h1 h2
      have := Nat.le_mul_of_pos_left count (Nat.pos_of_ne_zero h2)
      omega

/-- … and a senc it accepts holds every IV it announces: `IVs read * IV size ≤ bytes in the box`, IV size 0, 8 or 16 -/
theorem senc_parse_fits (iv count left v n : Nat) (h : SencSize.parse iv count left = some (v, n)) :
    n * v ≤ left ∧ (n = 0 ∨ n = count) ∧ (v = 0 ∨ v = 8 ∨ v = 16) := by
  unfold SencSize.parse at h
  obtain ⟨c1, h⟩ := ite_ne_left h nofun
  split at h
  · cases h; simp
  · split at h
    · rename_i c3
      cases h
      exact ⟨by rw [Nat.mul_comm]; omega, .inr rfl, .inr c3⟩
    · cases h

/-- non-vacuity of the senc model: 2^28+1 sixteen-byte IVs announced in 16 bytes are rejected, three IVs in 48 bytes read -/
example : SencSize.parse 16 (2^28+1) 16 = none ∧ SencSize.parse 16 3 48 = some (16, 3) ∧ SencSize.parse 0 3 24 = some (8, 3) := by decide

/-- non-vacuity: a moov holding an mvhd-sized leaf and an empty trak -/
example : (walk ([0,0,0,24] ++ [0x6d,0x6f,0x6f,0x76] ++ [0,0,0,8,0x66,0x72,0x65,0x65] ++ [0,0,0,8,0x74,0x72,0x61,0x6b])).map countAll
    = some 3 := by decide

/-- the Go functions the models of this property transcribe (committed table `spec/transcribed.json`, checked against
    the current source by the extractor on every run) all still exist -/
theorem model_sources_exist :
    (["Boxes.lean", "Walk.lean"] : List String).all Mp4ff.Expect.presentFor = true := by decide +kernel

end Mp4ff.Walk.C04
