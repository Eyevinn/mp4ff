import Mp4ff.Lemmas.BitsOps
import Mp4ff.Expect.Transcribed
/-!
# C13 — bit, Exp-Golomb and emulation-prevention coding are exact inverses

Property theorems only (helper lemmas live in `Mp4ff/Lemmas`).  The model (`Mp4ff/Model/Bits.lean`)
is the statement-by-statement transcription of `bits/writer.go`, `bits/reader.go`,
`bits/ebspwriter.go`, `bits/ebspreader.go` and `FixedSliceWriter.WriteBits/FlushBits`; it is tied to
the code by the correspondence run (`bin/check C13`).
-/
namespace Mp4ff.Bits.C13

/-- **plain round trip**: any sequence of fields (width 1..56 — the property asks for 1..32 — values
that fit) written with `bits.Writer`/`FixedSliceWriter.WriteBits` and flushed is read back
identically by `bits.Reader`, and the reader's byte counter plus what is left equals the bytes written. -/
theorem plain_roundtrip (ops : List (Nat × Nat)) (h : FieldsOK ops) :
    let bytes := BW.writeFields ops
    let res := ({ rest := bytes } : BR).readAll (ops.map (·.1))
    res.2 = ops.map (·.2) ∧ res.1.err = false ∧ res.1.nread + res.1.rest.length = bytes.length := by
  intro bytes res
  obtain ⟨hB, pad, _, hbits⟩ := BW.writeFields_spec ops (fun kv hkv => (h kv hkv).2.1)
  obtain ⟨hinv, habs⟩ := BR.init_spec 0 hB
  obtain ⟨r', e, i, _, n⟩ := reads_all ops h hinv (habs.trans hbits)
  have e : res = (r', ops.map (·.2)) := e
  rw [e]
  exact ⟨rfl, i.err, by simpa using n⟩

/-- **the escaping writer is the plain writer followed by byte-level escaping**: escape decisions
do not depend on where `Write` calls begin or end. -/
theorem ebsp_out_is_escaped_plain (ops : List (Nat × Nat)) :
    ((({} : EW).writeAll ops).out = esc 0 ((({} : BW).writeAll ops).out)) ∧
    ((({} : EW).writeAll ops).n = (({} : BW).writeAll ops).n) := by
  have := EWRel.writeAll ops {} {} EWRel.init
  exact ⟨this.out_eq, this.1⟩

/-- **never 00 00 00 / 00 00 01 / 00 00 02**, for every payload and every start state -/
theorem no_forbidden_triple (p : Bytes) (i : Nat) (hi : i + 2 < (esc 0 p).length) :
    ¬ ((esc 0 p)[i]! = 0 ∧ (esc 0 p)[i+1]! = 0 ∧ (esc 0 p)[i+2]! ≤ 2) :=
  NoForbidden.window _ 0 (esc_noForbidden p 0 (by decide)) i hi

/-- the same for what the EBSP writer actually emitted after any field sequence -/
theorem writer_no_forbidden_triple (ops : List (Nat × Nat)) (i : Nat)
    (hi : i + 2 < (({} : EW).writeAll ops).out.length) :
    let out := (({} : EW).writeAll ops).out
    ¬ (out[i]! = 0 ∧ out[i+1]! = 0 ∧ out[i+2]! ≤ 2) := by
  rw [(ebsp_out_is_escaped_plain ops).1] at hi ⊢
  exact no_forbidden_triple _ i hi

/-- **every 00 00 03 is an escape / the reader returns exactly the bytes written** -/
theorem unescape_escape (p : Bytes) : unesc 0 (esc 0 p) = p := unesc_esc p 0 (by decide)

/-- **escape bytes only where required**: a payload in which no two zero bytes are followed by a byte
≤ 3 is emitted unchanged, and in general exactly one byte is inserted per such position. -/
theorem escapes_only_where_required (p : Bytes) :
    (Clean 0 p → esc 0 p = p) ∧ (esc 0 p).length = p.length + escCount 0 p :=
  ⟨esc_clean p 0, esc_length p 0⟩

/-- **EBSP round trip**: any sequence of fixed-width fields, flags, ue(v) and se(v) values written
with the emulation-preventing writer and closed with rbsp trailing bits is read back identically by
the emulation-removing reader; no error; and the reader's byte counter counts bytes of the *escaped*
stream (bytes counted + bytes left = bytes emitted). -/
theorem ebsp_roundtrip (ops : List Op) (hok : ∀ op ∈ ops, op.OK) :
    let w := (ops.foldl EW.writeOp {}).writeRbspTrailingBits
    let res := ({ rest := w.out } : ER).readOps ops
    w.n = 0 ∧ res.2 = ops.map Op.value ∧ res.1.err = false ∧
      res.1.nread + res.1.rest.length = w.out.length := by
  intro w res
  obtain ⟨bw, hrel, _, hn, _⟩ := EW.written ops hok
  obtain ⟨P, m, hinv, habs⟩ := ER.init_written ops hok
  obtain ⟨e', P', q, i, _, n⟩ := ER.reads_ops ops hok hinv habs
  rw [show res = _ from q]
  exact ⟨hrel.1.trans hn, rfl, i.err, by simpa using n⟩

/-- **Exp-Golomb is exact**: ue(v) for every 32-bit `v`, se(v) for every 32-bit signed `x`
(single-value instances of the round trip, stated separately because the property names them). -/
theorem expGolomb_roundtrip (nr : Nat) (h : nr < 2 ^ 32) :
    let w := (({} : EW).writeExpGolomb nr).writeRbspTrailingBits
    (({ rest := w.out } : ER).readExpGolomb).2 = nr := by
  have := ER.readOp_written (op := .ue nr) h
  simp only [ER.readOp, EW.writeOp, Op.value] at this
  exact_mod_cast this

theorem signedGolomb_roundtrip (x : Int) (h : -(2 ^ 31 : Int) < x ∧ x < 2 ^ 31) :
    let w := (({} : EW).writeExpGolomb (seToUe x)).writeRbspTrailingBits
    (({ rest := w.out } : ER).readSignedGolomb).2 = x :=
  ER.readOp_written (op := .se x) h

/-! non-vacuity: concrete non-trivial instances of the hypotheses and of the conclusions -/

example : FieldsOK [(3, 5), (32, 4294967295), (1, 0), (13, 0)] := by
  intro kv h; simp at h; rcases h with h | h | h | h <;> subst h <;> decide

example : ∀ op ∈ [Op.fld 8 0, Op.fld 8 0, Op.fld 8 1, Op.ue 70000, Op.se (-3), Op.flag true], op.OK := by
  simp [Op.OK]

example : esc 0 [0, 0, 0, 0, 1, 0, 0, 3] = [0, 0, 3, 0, 0, 3, 1, 0, 0, 3, 3] := by decide

/-- the Go functions the models of this property transcribe (committed table `spec/transcribed.json`, checked against
    the current source by the extractor on every run) all still exist -/
theorem model_sources_exist :
    (["Bits.lean"] : List String).all Mp4ff.Expect.presentFor = true := by decide +kernel

end Mp4ff.Bits.C13
