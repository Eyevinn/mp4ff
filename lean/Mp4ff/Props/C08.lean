import Mp4ff.Model.Mdat
import Mp4ff.Lemmas.Mdat
import Mp4ff.Expect.Transcribed
/-!
# C08 — lazy-mdat mode is observationally equal to in-memory mode
Property theorems (layout definitions and proofs in `Mp4ff/Lemmas/Mdat.lean`).  A file is laid out as
`pre ++ header ++ P ++ post` with the mdat box at `pre.length`, 8- or 16-byte header.
-/
namespace Mp4ff.Mdat.C08

/-- both decoders record the same start position, header kind and payload position -/
theorem decode_positions (F : Bytes) (startPos hdrLen size : Nat) :
    (decodeLazy startPos hdrLen size).startPos = (decodeEager F startPos hdrLen size).startPos ∧
    (decodeLazy startPos hdrLen size).largeSize = (decodeEager F startPos hdrLen size).largeSize ∧
    (decodeLazy startPos hdrLen size).payloadStart = (decodeEager F startPos hdrLen size).payloadStart := by
  simp [decodeLazy, decodeEager, MdatBox.payloadStart, MdatBox.headerSize]

/-- the in-memory decoder holds exactly the payload -/
theorem eager_data (l : Layout) : l.eager.data = l.P := Mdat.eager_data l

/-- **byte ranges**: every range inside the payload — ranges ending at the last payload byte and empty ranges
    included — reads the same bytes in both modes, namely the file's bytes -/
theorem readData_lazy_eq_eager (l : Layout) (h : l.OK) (start size : Nat)
    (h1 : l.ms + l.hl ≤ start) (h2 : start + size ≤ l.ms + l.sz) :
    l.lazy.readData l.F start size = some (readAt l.F start size) ∧
    l.eager.readData l.F start size = some (readAt l.F start size) :=
  Mdat.readData_lazy_eq_eager l h start size h1 h2

/-- **a lazily decoded mdat encodes to exactly its header**: header ++ payload = the in-memory encoding; sizes
    and payload positions agree -/
theorem lazy_encode (l : Layout) (h : l.OK) :
    l.lazy.encode ++ l.P = l.eager.encode ∧ l.lazy.size = l.eager.size ∧
    l.lazy.size = (if l.hl = 16 ∨ l.P.length > 2 ^ 32 - 1 - 8 then 16 else 8) + l.P.length ∧
    l.lazy.payloadStart = l.eager.payloadStart := Mdat.lazy_encode l h

/-- **chunk copies, every work-buffer length** (0 = unbuffered, 1, …): the lazy refill loop writes exactly the
    concatenation of the ranges, as the in-memory path does -/
theorem copyRanges_lazy_eq_eager (l : Layout) (h : l.OK) (rs : List (Nat × Nat)) (hr : RangesIn l rs) (workLen : Nat) :
    copyRanges l.lazy l.F workLen rs = some (rs.flatMap fun r => readAt l.F r.1 r.2) ∧
    copyRanges l.eager l.F workLen rs = some (rs.flatMap fun r => readAt l.F r.1 r.2) :=
  Mdat.copyRanges_lazy_eq_eager l h rs hr workLen

/-- **sample-interval copies** (ranges spanning chunk boundaries come from the sample tables, C09) -/
theorem copySampleData_lazy_eq_eager (l : Layout) (h : l.OK) (t : Stbl.Tables) (a b : Nat) (rs : List (Nat × Nat))
    (hrs : t.getRanges a b = some rs) (hr : RangesIn l rs) (workLen : Nat) :
    copySampleData t l.lazy l.F workLen a b = copySampleData t l.eager l.F 0 a b ∧
    copySampleData t l.lazy l.F workLen a b = some (rs.flatMap fun r => readAt l.F r.1 r.2) :=
  Mdat.copySampleData_lazy_eq_eager l h t a b rs hrs hr workLen

example : (⟨[1, 2, 3], [0, 0, 0, 11, 0x6d, 0x64, 0x61, 0x74], [7, 8, 9], [4]⟩ : Layout).OK := by
  simp [Layout.OK, Layout.hl]

/-- the Go functions the models of this property transcribe (committed table `spec/transcribed.json`, checked against
    the current source by the extractor on every run) all still exist -/
theorem model_sources_exist :
    (["Mdat.lean", "SampleTables.lean"] : List String).all Mp4ff.Expect.presentFor = true := by decide +kernel

end Mp4ff.Mdat.C08
