import Mp4ff.Lemmas.EsdsEnc
import Mp4ff.Lemmas.EsdsDec
/-!
# C01c — decode then encode is lossless for the `esds` box and its MPEG-4 descriptors

The `esds` box is not a layout-DSL box (its payload is a tree of descriptors with variable-length size fields), so
the generic layout theorems of `Props/C01.lean` do not speak about it.  Its own model is `Mp4ff/Model/Esds.lean`
(transcription of mp4/esds.go + mp4/descriptors.go), proofs in `Mp4ff/Lemmas/Esds*.lean` (restated for C18 in
`Props/C18b.lean`).  Here the C01 clauses:

* `esds_reencode_exact`: every payload the decoder accepts is reproduced bit for bit up to the end of the ES
  descriptor — the order of the descriptors at every level (an optional descriptor between the DecoderConfig and the
  SLConfig descriptor stays there: the SLConfig slot is only taken by the descriptor that directly follows the
  DecoderConfig descriptor), the number of bytes of every size field (padded 0x80 forms), unknown tags, unknown
  trailing data inside a descriptor; the only normalisation is the committed one ("trailing-dropped": bytes of the box
  after the ES descriptor).
* `esds_decode_encode`: decode ∘ encode = id on well-formed trees.

Tie to the Go code: ops `esds.dec` / `esds.rt` under C01 (and C02, C03) on descriptor trees with optional / unknown
descriptors at every position and every size-field form (harness/c010203.go: genEsdsBoxes), next to the direct
oracle on the four Go code paths.
-/
namespace Mp4ff.C01c
open Mp4ff.Esds

/-- **encode ∘ decode**: an accepted payload is `encodeEsds (decoded) ++ t`; `t` = the dropped bytes after the ES
    descriptor (committed normalisation "trailing-dropped") -/
theorem esds_reencode_exact (bs : Bytes) (hb : IsBytes bs) (hl : bs.length < 2 ^ 63) (e : Esds)
    (h : decodeEsds bs = .ok e) : ∃ t, bs = encodeEsds e ++ t := by
  obtain ⟨s', he, st⟩ := decodeEsds_run h
  exact ⟨s'.rest, (st.consumed he ⟨hb, by rw [Nat.zero_add]; exact hl⟩).1⟩

/-- the re-encoded box is never longer than the input box, and is the input when nothing follows the ES descriptor -/
theorem esds_reencode_length (bs : Bytes) (hb : IsBytes bs) (hl : bs.length < 2 ^ 63) (e : Esds)
    (h : decodeEsds bs = .ok e) : (encodeEsds e).length ≤ bs.length := by
  obtain ⟨t, ht⟩ := esds_reencode_exact bs hb hl e h
  rw [ht, List.length_append]
  exact Nat.le_add_right _ _

/-- … also with bytes after the ES descriptor -/
theorem esds_decode_encode_tail (e : Esds) (h : e.WF) (t : Bytes) (ht : 8 + (encodeEsds e ++ t).length < 2 ^ 32) :
    decodeEsds (encodeEsds e ++ t) = .ok e := by
  rw [List.length_append, encodeEsds_length, Nat.add_assoc] at ht
  have hlt : e.es.sizeSize + t.length < 2 ^ 32 := by omega
  obtain ⟨hw, hver, hfl⟩ := mul_pow24_add_div_mod h.version h.flags
  unfold decodeEsds decodeEsdsFuel
  rw [List.length_append, encodeEsds_length, Nat.add_assoc, if_pos (Nat.le_add_right 4 _), Nat.add_sub_cancel_left,
    Nat.mod_eq_of_lt hlt]
  simp only [encodeEsds, Nat.mod_eq_of_lt h.version, List.append_assoc]
  rw [readBE_append 4 _ _ _ hw, decodeES_enc _ (decodeDescriptor_enc _) e.es h.es (by omega) t (0 + 4) _
    (Nat.le_add_right _ _) (Nat.lt_trans hlt (by decide))]
  simp only [Option.isSome_none, Bool.false_eq_true, ↓reduceIte]
  rw [hver, hfl]

/-- **decode ∘ encode = id** on well-formed descriptor trees (`Esds.WF`, see `Props/C18b.lean`) -/
theorem esds_decode_encode (e : Esds) (h : e.WF) : decodeEsds (encodeEsds e) = .ok e := by
  have := esds_decode_encode_tail e h [] (by
    rw [List.append_nil, encodeEsds_length]; have := h.size; rw [sizeEsds] at this; omega)
  rwa [List.append_nil] at this

/-! ## non-vacuity: descriptors at every position -/

/-- `CreateEsdsBox([0x11, 0x90])`'s DecoderConfig descriptor -/
def dcHdr : DcHdr := ⟨0, 0x40, 0x15, 0, 0, 0, some (0, [0x11, 0x90]), []⟩

/-- DecoderConfig, language descriptor (tag 0x43), SLConfig: the SLConfig descriptor is NOT in the typed slot, it
    stays behind the language descriptor in `others` -/
def between : Esds :=
  ⟨0, 0, { sfs := 0, esId := 1, flags := 0, dependsOn := 0, url := [], ocr := 0, dc := dcHdr, dcOthers := [],
           sl := none, others := [.raw 0x43 0 [0x73, 0x77, 0x65], .sl 0 2 []], unk := [] }⟩

/-- DecoderConfig, SLConfig (4-byte padded size field), language descriptor, a second SLConfig, an unknown tag -/
def after : Esds :=
  ⟨0, 0, { sfs := 0, esId := 1, flags := 0, dependsOn := 0, url := [], ocr := 0, dc := dcHdr, dcOthers := [],
           sl := some (3, 2, []), others := [.raw 0x43 0 [0x73, 0x77, 0x65], .sl 0 2 [], .raw 0xfe 0 [9, 9]], unk := [] }⟩

theorem between_wf : between.WF := by
  refine ⟨by decide, by decide, ⟨?_, by decide, by decide, by decide, by decide, by decide, ?_, ?_, ?_, ?_, ?_⟩,
    by decide⟩ <;>
    simp [between, dcHdr, SzOK, ES.size, flagDep, flagUrl, flagOcr, Desc.sizeSize, Desc.sfsOf, Desc.size, dsiSizeSize,
      slSizeSize, sizeSizes, Desc.WF, DsiWF, WFs, UnkOK, SlWF, headNot, Desc.isSl]

theorem after_wf : after.WF := by
  refine ⟨by decide, by decide, ⟨?_, by decide, by decide, by decide, by decide, by decide, ?_, ?_, ?_, ?_, ?_⟩,
    by decide⟩ <;>
    simp [after, dcHdr, SzOK, ES.size, flagDep, flagUrl, flagOcr, Desc.sizeSize, Desc.sfsOf, Desc.size, dsiSizeSize,
      slSizeSize, sizeSizes, Desc.WF, DsiWF, WFs, UnkOK, SlWF]

example : encodeEsds between
    = [0, 0, 0, 0, 3, 30, 0, 1, 0, 4, 17, 0x40, 0x15, 0, 0, 0, 0, 0, 0, 0, 0, 0, 0, 0, 5, 2, 0x11, 0x90,
       0x43, 3, 0x73, 0x77, 0x65, 6, 1, 2] := by decide
/-- these bytes decode to `between` (the SLConfig slot stays empty) and are therefore re-encoded unchanged -/
example : decodeEsds (encodeEsds between) = .ok between := esds_decode_encode between between_wf

example : encodeEsds after
    = [0, 0, 0, 0, 3, 40, 0, 1, 0, 4, 17, 0x40, 0x15, 0, 0, 0, 0, 0, 0, 0, 0, 0, 0, 0, 5, 2, 0x11, 0x90,
       6, 0x80, 0x80, 0x80, 1, 2, 0x43, 3, 0x73, 0x77, 0x65, 6, 1, 2, 0xfe, 2, 9, 9] := by decide
example : decodeEsds (encodeEsds after) = .ok after := esds_decode_encode after after_wf

/-- a descriptor before the DecoderConfig descriptor is refused -/
example : decodeEsds [0, 0, 0, 0, 3, 8, 0, 1, 0, 0x43, 3, 0x73, 0x77, 0x65] = .error .expectedDC := by rfl

end Mp4ff.C01c
