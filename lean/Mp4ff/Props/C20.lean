import Mp4ff.Model.Conc
import Mp4ff.Expect.Facts
import Mp4ff.Expect.Transcribed
/-!
# C20 — independent objects can be used from concurrent goroutines
Two halves.  (1) Facts regenerated from the Go sources on every run: the only package-level variables that any
function writes are the three decoder registries, written only by `init`, `SetBoxDecoder`, `RemoveBoxDecoder`; every
other package-level variable is a read-only table or a sentinel error.  (2) In the abstract machine of
`Model/Conc.lean`, where a step touches only its goroutine's private state, every interleaving gives every goroutine
exactly the result it gets when run alone.  The race-detector harness ties the machine's assumption (steps touch
only private state and read the shared input) to the real code, including slices that alias the input buffer.
-/
namespace Mp4ff.Conc.C20

variable {I R L : Type}

/-- **every interleaving gives each goroutine the result it gets when run alone**: the final private state of `g`
    after any schedule is `g` stepping alone as many times as it occurs in the schedule -/
theorem interleaving_independent (sys : System I R L) (inp : I) (reg : R) (sched : List Nat) (ls : Nat → L) (g : Nat) :
    run sys inp reg sched ls g = alone sys inp reg g (sched.count g) (ls g) := by
  induction sched generalizing ls with
  | nil => rfl
  | cons a rest ih =>
    rw [run, List.foldl_cons, ← run, ih]
    by_cases hag : a = g
    · subst hag; simp [alone]
    · simp [hag, Ne.symm hag]

/-- steps of other goroutines do not change goroutine `g`'s state -/
theorem run_other (sys : System I R L) (inp : I) (reg : R) (sched : List Nat) (ls : Nat → L) (g : Nat)
    (h : g ∉ sched) : run sys inp reg sched ls g = ls g := by
  rw [interleaving_independent, List.count_eq_zero_of_not_mem h]; rfl

/-- two schedules with the same number of steps per goroutine are indistinguishable to every goroutine -/
theorem schedules_equivalent (sys : System I R L) (inp : I) (reg : R) (s1 s2 : List Nat) (ls : Nat → L)
    (h : ∀ g, s1.count g = s2.count g) : run sys inp reg s1 ls = run sys inp reg s2 ls := by
  funext g
  rw [interleaving_independent, interleaving_independent, h g]

/-- a one-entry package-level cache (the kind of change C20 guards against): a step returns the last writer of the
    cache and becomes the last writer itself -/
def cacheSys : LeakySystem Unit Nat Nat := ⟨fun _ h g _ => (g, h)⟩

/-- **hidden shared state breaks the property**: with such a cache a goroutine's result depends on the schedule -/
theorem hidden_state_is_observable :
    (runLeaky cacheSys () [1, 2] 0 (fun _ => 0)).2 2 ≠ (runLeaky cacheSys () [2] 0 (fun _ => 0)).2 2 := by decide

/-- **the library has no hidden mutable state**: source facts (regenerated from /repo on every run) -/
theorem no_hidden_state :
    Generated.globals.all (fun g => g.2.2.2 = [] ||
      (Expect.registryVars.contains g.2.1 && g.2.2.2.all (Expect.allowedWriters.contains ·))) = true :=
  Expect.globals_written_only_by_registry_functions

/-- every package-level variable is a sentinel error, a table (map, slice, array), a registry or a scalar of a basic
    type; in particular none is a pointer to / a value of a struct type, an interface, a func, a value of another
    package's type or the result of a call the extractor cannot type (kinds as classified by `extract/main.go`
    `globalKind`, named types followed to their definition): no package-level object with mutable fields -/
theorem globals_are_tables_or_errors :
    Generated.globals.all (fun g => g.2.2.1 == "error" || g.2.2.1 == "map" || g.2.2.1 == "slice" ||
      g.2.2.1 == "array" || g.2.2.1 == "scalar") = true := Expect.globals_kinds

/-- non-vacuity: a three-goroutine system under two different interleavings -/
example : run (⟨fun (inp : Nat) _ g l => l + inp + g⟩ : System Nat Unit Nat) 10 () [1, 2, 1, 3] (fun _ => 0) 1 =
          run (⟨fun (inp : Nat) _ g l => l + inp + g⟩ : System Nat Unit Nat) 10 () [3, 1, 1, 2] (fun _ => 0) 1 := by decide

/-- the Go functions the models of this property transcribe (committed table `spec/transcribed.json`, checked against
    the current source by the extractor on every run) all still exist -/
theorem model_sources_exist :
    (["Aac.lean", "Bits.lean", "Boxes.lean"] : List String).all Mp4ff.Expect.presentFor = true := by decide +kernel

end Mp4ff.Conc.C20
