import Mp4ff.Model.Segments
import Mp4ff.Lemmas.Segments
import Mp4ff.Expect.Transcribed
/-!
# C12 — fragments are grouped into segments faithfully and indexes tile the media
Property theorems about `Model/Segments.lean` (`File.AddChild`'s grouping of top-level boxes and the sidx reference
arithmetic); proofs in `Mp4ff/Lemmas/Segments.lean`.  The model is tied to mp4/file.go by the `group` correspondence op
(every generated fragmented file is grouped by both and the segment/fragment structure compared).
-/
namespace Mp4ff.Segments.C12

/-- the first reference starts at the anchor point -/
theorem refStart_zero (sizes : List Nat) : refStart sizes 0 = 0 := by simp [refStart]

/-- **every moof ends up in exactly one fragment of exactly one segment, in file order** — for every stream of
    top-level boxes, every delimiter configuration (sidx list, tfra offsets, start-on-moof flag), every start state -/
theorem group_preserves_moofs (sidxOf : Item → Option Sidx) (items : List Item) (st st' : St)
    (h : groupItems st sidxOf items = some st') :
    moofsOf st' = moofsOf st ++ (items.filter (·.kind == .moof)).map (·.pos) :=
  Segments.group_preserves_moofs sidxOf items st st' h

/-- media boxes never change the delimiter configuration; segments are only ever appended -/
theorem group_segments_grow (sidxOf : Item → Option Sidx) (items : List Item) (st st' : St)
    (h : groupItems st sidxOf items = some st') :
    st.segs.length ≤ st'.segs.length ∧ st'.tfra = st.tfra ∧ st'.startOnMoof = st.startOnMoof :=
  Segments.group_segments_grow sidxOf items st st' h

/-- **styp delimits**: every styp box opens a new segment that starts at the styp's position -/
theorem styp_opens_segment (st : St) (it : Item) (sidxOf : Item → Option Sidx) (hk : it.kind = .styp) :
    ∃ st', addChild st it sidxOf = some st' ∧ st'.segs = st.segs ++ [{ startPos := it.pos, hasStyp := true, stypSize := it.size }] :=
  Segments.styp_opens_segment st it sidxOf hk

/-- **default mode** (no sidx, no tfra, flag off): a moof opens a segment only when none exists yet -/
theorem default_mode_single_segment (st : St) (it : Item) (sidxOf : Item → Option Sidx) (hk : it.kind = .moof)
    (hs : st.sidxs = []) (ht : st.tfra = none) (hf : st.startOnMoof = false) (hne : st.segs ≠ []) (st' : St)
    (h : addChild st it sidxOf = some st') : st'.segs.length = st.segs.length :=
  Segments.default_mode_single_segment st it sidxOf hk hs ht hf hne st' h

/-- **start-on-moof** (no sidx, no tfra): a moof that does not complete a fragment opened by an emsg opens a segment -/
theorem startOnMoof_opens (st : St) (it : Item) (sidxOf : Item → Option Sidx) (hk : it.kind = .moof)
    (hs : st.sidxs = []) (ht : st.tfra = none) (hf : st.startOnMoof = true)
    (hopen : ∀ s ∈ st.segs.getLast?, ∀ f ∈ s.frags.getLast?, f.moof.isSome) (st' : St)
    (h : addChild st it sidxOf = some st') : st'.segs.length = st.segs.length + 1 :=
  Segments.startOnMoof_opens st it sidxOf hk hs ht hf hopen st' h

/-- **several top-level sidx boxes delimit together**: segment number `k` of the file starts at `pos` exactly when
    `pos` is the `k`-th of the reference starts listed by all top-level sidx boxes in order (each box's references
    running from its own anchor point, a box counted up to its first reference_type 1 entry) — the reference counter
    of `startSegmentIfNeeded` runs on from one box to the next -/
theorem multi_sidx_delimits (sidxs : List Sidx) (pos k : Nat) :
    sidxStart sidxs pos k = true ↔ (allStarts sidxs)[k]? = some pos :=
  Segments.sidxStart_spec sidxs pos k

/-- … so in a sidx-delimited file a moof (not completing an emsg-opened fragment) opens a new segment iff it sits at
    the next listed reference start, whichever box lists it -/
theorem sidx_moof_step (st : St) (it : Item) (sidxOf : Item → Option Sidx) (hk : it.kind = .moof)
    (hs : st.sidxs ≠ []) (hne : st.segs ≠ []) (hop : isOpen st = false) (st' : St)
    (h : addChild st it sidxOf = some st') :
    st'.segs.length =
      st.segs.length + (if (allStarts st.sidxs)[st.segs.length]? = some it.pos then 1 else 0) :=
  Segments.sidx_moof_step st it sidxOf hk hs hne hop st' h

/-- non-vacuity: two boxes (anchors 100 and 130, the second one behind 30 bytes of media), 2 + 2 references; the
    third segment is the first reference of the second box -/
example : allStarts [⟨100, [(0, 10), (0, 20)]⟩, ⟨130, [(0, 5), (0, 7)]⟩] = [100, 110, 130, 135] := by decide
example : sidxStart [⟨100, [(0, 10), (0, 20)]⟩, ⟨130, [(0, 5), (0, 7)]⟩] 130 2 = true := by decide
/-- a parent box of reference_type 1 entries contributes no segment starts -/
example : allStarts [⟨60, [(1, 20), (1, 20)]⟩, ⟨100, [(0, 10)]⟩, ⟨110, [(0, 5)]⟩] = [100, 110] := by decide

/-- **the index tiles the media**: when the segments are contiguous, reference `i` (offset = sum of the earlier
    referenced sizes from the anchor) starts at the first byte of segment `i`, and the references end where the last
    segment ends -/
theorem sidx_tiles (starts sizes : List Nat) (hl : starts.length = sizes.length)
    (hc : ∀ i, i + 1 < starts.length → starts.getD (i + 1) 0 = starts.getD i 0 + sizes.getD i 0) :
    (∀ i, i < starts.length → starts.getD 0 0 + refStart sizes i = starts.getD i 0) ∧
    (starts ≠ [] → starts.getD 0 0 + sizes.sum = starts.getD (starts.length - 1) 0 + sizes.getD (sizes.length - 1) 0) :=
  Segments.sidx_tiles starts sizes hl hc

/-- non-vacuity: three contiguous segments of sizes 10, 20, 30 starting at byte 100 -/
example : ([100, 110, 130] : List Nat).getD 0 0 + refStart [10, 20, 30] 2 = 130 := by decide

/-- **the sizes UpdateSidx uses are the sizes that are written, and a new index sits at the first byte of the media**:
    a gap-free run of segment boxes (styp / emsg / moof / mdat) starting at byte `p`, grouped by `File.AddChild` under
    any delimiter configuration, no index yet. Then `UpdateSidx(addIfNotExists)` (1) places the new sidx directly in
    front of a box of the file that sits at byte `p` — whatever kind of box opens the first segment —, with
    first_offset 0, and (2) fills it with `MediaSegment.Size()` of every segment, and those references tile the run:
    reference `i` starts at the first byte of segment `i`, all of them end at the last byte of the run. -/
theorem updateSidx_new_index_tiles (sidxOf : Item → Option Sidx) (all items : List Item) (st0 st : St) (p : Nat)
    (others : List Nat) (o : IndexOut)
    (h0 : st0.segs = []) (hc : Contig items p) (hm : ∀ it ∈ items, segmentBox it.kind = true)
    (h : groupItems st0 sidxOf items = some st) (hs : st.sidxs = [])
    (hu : updateSidx all st true others = .index o) :
    o.firstOffset = 0 ∧
    (∃ j x, o.insertAt = some j ∧ all[j]? = some x ∧ x.pos = p) ∧
    o.sizes = st.segs.map Seg.size ∧
    (∀ i (hi : i < st.segs.length), p + refStart o.sizes i = (st.segs[i]).startPos) ∧
    p + o.sizes.sum = p + (items.map (·.size)).sum := by
  have ht : Tiles st.segs p (p + (items.map (·.size)).sum) :=
    group_tiles hc hm (by simp [h0, Tiles]) h
  obtain ⟨hsz, hnew⟩ := updateSidx_index hu
  obtain ⟨hfo, j, hj, hi⟩ := hnew hs
  obtain ⟨x, hx, hp⟩ := insertIdx_at_start ht hi
  rw [hsz]
  exact ⟨hfo, ⟨j, x, hj, hx, hp⟩, rfl, Tiles.refs ht⟩

/-- **an existing index is refilled with the written sizes**: same run of segment boxes; the references (from the
    first byte of the run) tile it -/
theorem updateSidx_sizes_tile (sidxOf : Item → Option Sidx) (all items : List Item) (st0 st : St) (p : Nat)
    (add : Bool) (others : List Nat) (o : IndexOut)
    (h0 : st0.segs = []) (hc : Contig items p) (hm : ∀ it ∈ items, segmentBox it.kind = true)
    (h : groupItems st0 sidxOf items = some st) (hu : updateSidx all st add others = .index o) :
    (∀ i (hi : i < st.segs.length), p + refStart o.sizes i = (st.segs[i]).startPos) ∧
    p + o.sizes.sum = p + (items.map (·.size)).sum := by
  rw [(updateSidx_index hu).1]
  exact Tiles.refs (group_tiles hc hm (by simp [h0, Tiles]) h)

/-- non-vacuity: `emsg moof mdat | moof mdat` from byte 100 with the start-on-moof flag (two segments, the first one
    opened by the emsg), behind two init boxes: the new index goes in front of the emsg (top-level box number 2) -/
example :
    let media : List Item := [⟨.emsg, 100, 10⟩, ⟨.moof, 110, 20⟩, ⟨.mdat, 130, 5⟩, ⟨.moof, 135, 20⟩, ⟨.mdat, 155, 7⟩]
    let all : List Item := [⟨.ftyp, 0, 24⟩, ⟨.moov, 24, 76⟩] ++ media
    (groupItems { startOnMoof := true } (fun _ => none) media).map (fun st => updateSidx all st true []) =
      some (.index ⟨[35, 27], 0, some 2⟩) := by decide
/-- … and with an emsg of 40 bytes inserted into the second segment's fragment through `Fragment.AddEmsg` the second
    reference grows by 40 bytes; inserted into the first fragment of the first segment of a file without emsg it becomes
    the segment's first box, which `insertSidx` does not find among the boxes of the file (error return) -/
example :
    let media : List Item := [⟨.emsg, 100, 10⟩, ⟨.moof, 110, 20⟩, ⟨.mdat, 130, 5⟩, ⟨.moof, 135, 20⟩, ⟨.mdat, 155, 7⟩]
    let all : List Item := [⟨.ftyp, 0, 24⟩, ⟨.moov, 24, 76⟩] ++ media
    (groupItems { startOnMoof := true } (fun _ => none) media).map
      (fun st => updateSidx all (applyOps 162 st [.addEmsg 1 0 [40]]) true []) =
      some (.index ⟨[35, 67], 0, some 2⟩) := by decide
example :
    let media : List Item := [⟨.moof, 100, 20⟩, ⟨.mdat, 120, 5⟩]
    let all : List Item := [⟨.ftyp, 0, 24⟩, ⟨.moov, 24, 76⟩] ++ media
    (groupItems {} (fun _ => none) media).map
      (fun st => updateSidx all (applyOps 125 st [.addEmsg 0 0 [40]]) true []) = some .error := by decide
/-- the Go functions the models of this property transcribe (committed table `spec/transcribed.json`, checked against
    the current source by the extractor on every run) all still exist -/
theorem model_sources_exist :
    (["Boxes.lean", "Segments.lean"] : List String).all Mp4ff.Expect.presentFor = true := by decide +kernel

end Mp4ff.Segments.C12
