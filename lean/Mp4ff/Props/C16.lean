import Mp4ff.Model.Nalu
import Mp4ff.Model.AvcSps
import Mp4ff.Lemmas.NaluBounds
import Mp4ff.Lemmas.AvcSps
import Mp4ff.Props.C15b
import Mp4ff.Expect.Transcribed
/-!
# C16 — untrusted elementary-stream bytes never crash or hang the codec helpers
What a theorem can carry of this property, proved for **every** byte string: the length-prefixed NAL-unit walkers
(`Model/Nalu.lean`, the transcription of avc/nalus.go, avc/avc.go, hevc/hevc.go, avc/annexb.go after the checked-cursor
repair) return only what fits inside the input and stop within |s|+1 steps; the AVC SPS parser (`Model/AvcSps.lean`)
terminates within a fixed number of steps and returns at most a fixed number of values whatever the bytes are; and the
generic statement behind it for every syntax of the DSL.  Panics, wall time and allocation of the real Go code are
runtime behaviour decided by the isolated-worker harness (DESIGN.md §0.25); the models are tied to the code by the
C14 correspondence (well-formed and hostile samples) and the C15 `avcspsm` correspondence.
-/
namespace Mp4ff.C16
open Mp4ff.Nalu Mp4ff.BitSyn Mp4ff.AvcSps Mp4ff.Bits

/-- **GetNalusFromSample on any bytes**: what is returned fits inside the input (4 bytes of length field per unit),
    and every unit is a contiguous piece of the input -/
theorem nalusFromSample_bounded (s : Bytes) (ns : List Bytes) (h : nalusFromSample s = some ns) :
    (ns.map List.length).sum + 4 * ns.length ≤ s.length ∧
    ∀ n ∈ ns, ∃ a, a + n.length ≤ s.length ∧ n = slice s a (a + n.length) := Nalu.nalusFromSample_bounded s ns h

/-- **FindNaluTypes / …UpToFirstVideoNALU on any bytes**: at most one type per 4 input bytes -/
theorem naluTypes_bounded (c : Codec) (stop : Bool) (s : Bytes) : (naluTypes c stop s).length * 4 ≤ s.length :=
  Nalu.naluTypes_bounded c stop s

/-- **GetParameterSets on any bytes**: the returned parameter sets fit inside the input -/
theorem paramSets_bounded (c : Codec) (isPS : Nat → Bool) (s : Bytes) :
    ((paramSets c isPS s).map (·.2.length)).sum + 4 * (paramSets c isPS s).length ≤ s.length :=
  Nalu.paramSets_bounded c isPS s

/-- **ConvertSampleToByteStream on any bytes** rewrites in place: the length never changes -/
theorem toByteStream_length (fuel : Nat) (s : Bytes) (pos : Nat) : (toByteStream fuel s pos).length = s.length :=
  Nalu.toByteStream_length fuel s pos

/-- **the walks terminate within |s| + 1 steps**: a larger fuel never changes the answer -/
theorem walkers_terminate (c : Codec) (stop : Bool) (isPS : Nat → Bool) (t0 : Nat) (s : Bytes) (f : Nat)
    (hf : s.length + 1 ≤ f) :
    nalusFromSample.go s f 0 [] = nalusFromSample.go s (s.length + 1) 0 [] ∧
    naluTypes.go c stop s f 0 [] = naluTypes.go c stop s (s.length + 1) 0 [] ∧
    containsType.go c s t0 f 0 = containsType.go c s t0 (s.length + 1) 0 ∧
    paramSets.go c isPS s f 0 [] = paramSets.go c isPS s (s.length + 1) 0 [] ∧
    toByteStream f s 0 = toByteStream (s.length + 1) s 0 := by
  -- every round moves the cursor by at least 4; all but `toByteStream` are instances of the one loop `walk`
  simp only [nalusFromSample_go_eq, naluTypes_go_eq, containsType_go_eq, paramSets_go_eq,
    walk_fuel s _ _ f (s.length + 1) 0 _ (by omega) (by omega), true_and]
  exact toByteStream_fuel _ _ s 0 (by omega) (by omega)

/-- **every parser written in the syntax DSL is total with bounded output**: with the purely syntactic fuel bound it
    returns on every reader state (any bytes, any error state) and yields at most `maxEntriesL L` values -/
theorem parse_total (L : List Syn) (f : Nat) (acc : Trace) (e : ER) (hf : fuelNeedL L ≤ f) :
    ∃ acc' e', parse f L acc e = some (acc', e') ∧ acc'.length ≤ acc.length + maxEntriesL L :=
  BitSyn.parse_total L f acc e hf

/-- **the AVC SPS parser on any bytes**: returns within 5124 nested steps with at most 1305 values — the count limits
    of the parser (num_ref_frames_in_pic_order_cnt_cycle ≤ 255, cpb_cnt_minus1 ≤ 31, 12 scaling lists of ≤ 64
    coefficients) are what makes the bound a constant -/
theorem sps_total (signedOffsets : Bool) (nalu : Bytes) :
    ∃ t e, parseNalu (fuelNeedL (sps signedOffsets)) (sps signedOffsets) nalu = some (t, e) ∧
      t.length ≤ maxEntriesL (sps signedOffsets) ∧ maxEntriesL (sps signedOffsets) ≤ 2000 ∧
      fuelNeedL (sps signedOffsets) ≤ 6000 := AvcSps.sps_total signedOffsets nalu

/-- non-vacuity: a length field of 2^32-1 in a 6-byte "sample" -/
example : nalusFromSample [0xff, 0xff, 0xff, 0xff, 0x65, 0x00] = none ∧
    naluTypes avc false [0xff, 0xff, 0xff, 0xff, 0x65, 0x00] = [5] := by decide

/-- the Go functions the models of this property transcribe (committed table `spec/transcribed.json`, checked against
    the current source by the extractor on every run) all still exist -/
theorem model_sources_exist :
    (["AvcPps.lean", "AvcSlice.lean", "AvcSps.lean", "Bits.lean", "HevcPps.lean", "HevcSlice.lean", "HevcSps.lean", "Nalu.lean", "Sei.lean"] : List String).all Mp4ff.Expect.presentFor = true := by decide +kernel

end Mp4ff.C16
