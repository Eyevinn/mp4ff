import Mp4ff.Model.AvcSps
import Mp4ff.Lemmas.AvcSps
import Mp4ff.Props.C15b
import Mp4ff.Expect.Transcribed
/-!
# C15 — parameter sets and slice headers parse to the values that were coded
Property theorems about the bitstream-syntax DSL (`Model/BitSyn.lean`) and the AVC sequence parameter set written in
it (`Model/AvcSps.lean`, the transcription of avc/sps.go with full VUI/HRD, scaling lists and the parser's count limits); proofs in
`Mp4ff/Lemmas/BitSyn*.lean` (the DSL) and `Lemmas/AvcSps.lean`, `PictureSize.lean` on top of the C13 writer/reader refinement.  The SPS model is tied to `avc.ParseSPSNALUnit`
by the `avcsps` correspondence op on NAL units produced by the harness's independent serialiser.  AVC PPS and slice header, HEVC SPS, PPS and slice header are modelled in the same DSL
(`Model/AvcPps.lean`, `AvcSlice.lean`, `HevcSps.lean`, `HevcPps.lean`, `HevcSlice.lean`); their theorems are in `Props/C15b.lean`.
-/
namespace Mp4ff.AvcSps.C15
open Mp4ff.BitSyn Mp4ff.Bits

/-- **generic NAL unit round trip** — for *every* syntax expressible in the DSL (any nesting of conditions and
    repetitions over earlier values) and every valid value assignment: the NAL unit an independent serialiser writes
    (emulation prevention, rbsp trailing bits) parses back to exactly those values, with no error, every byte of the
    unit accounted for -/
theorem serialize_parse (f : Nat) (L : List Syn) (tr : Trace) (h : TraceOK f L tr) :
    ∃ nalu e, serialize f L tr = some nalu ∧ parseNalu f L nalu = some (tr, e) ∧ e.err = false ∧
      e.nread + e.rest.length = nalu.length := BitSyn.serialize_parse f L tr h

/-- more fuel never changes a parse result (the driver's fuel is never the reason for an answer) -/
theorem parse_fuel_mono (f g : Nat) (hfg : f ≤ g) (L : List Syn) (acc : Trace) (e : ER) (r : Trace × ER)
    (h : parse f L acc e = some r) : parse g L acc e = some r := BitSyn.parse_fuel_mono f g hfg L acc e r h

/-- **AVC SPS**: every field of every valid SPS (all profiles with/without the high-profile fields, scaling lists,
    poc types 0-2, frame/field, cropping, VUI with HRD) is parsed to the value that was coded -/
theorem sps_roundtrip (signedOffsets : Bool) (f : Nat) (tr : Trace) (h : TraceOK f (sps signedOffsets) tr) :
    ∃ nalu e, serialize f (sps signedOffsets) tr = some nalu ∧
      parseNalu f (sps signedOffsets) nalu = some (tr, e) ∧ e.err = false :=
  AvcSps.sps_roundtrip signedOffsets f tr h

/-- **picture size, for every valid SPS**: the parser's width/height (Go `uint` arithmetic, wrapping) is the standard's
    derivation (SubWidthC / SubHeightC, ChromaArrayType, CropUnitX/Y, FrameHeightInMbs) whenever the cropping rectangle
    lies inside the coded picture, as the standard requires -/
theorem dims_eq_std_sps (signedOffsets : Bool) (f : Nat) (tr : Trace) (h : TraceOK f (sps signedOffsets) tr)
    (hfit : CropFits tr) : dims tr = stdDims tr := AvcSps.dims_eq_std_sps signedOffsets f tr h hfit

/-- for arbitrary value assignments (not necessarily produced by the syntax) the two derivations agree unless
    separate_colour_plane_flag = 1 is combined with chroma format 1 or 2 — which the syntax excludes -/
theorem dims_eq_std_partial (t : Trace) (hf : t.nat "frame_mbs_only_flag" ≤ 1)
    (hsep : t.get "separate_colour_plane_flag" = 1 → chromaFormat t ≠ 1 ∧ chromaFormat t ≠ 2)
    (hfit : CropFits t) : dims t = stdDims t := AvcSps.dims_eq_std_partial t hf hsep hfit

/-- … and the unrestricted statement is false: the witness (separate_colour_plane_flag = 1 with an inferred chroma
    format 1 — a value assignment the syntax cannot produce) -/
def dimsCounterexample : Trace :=
  [("profile_idc", 66), ("separate_colour_plane_flag", 1), ("frame_mbs_only_flag", 1), ("frame_cropping_flag", 1),
   ("pic_width_in_mbs_minus1", 9), ("pic_height_in_map_units_minus1", 9), ("frame_crop_right_offset", 1),
   ("frame_crop_bottom_offset", 1)]

/-- on the witness the parser's size and the standard's differ by one sample each way -/
theorem dims_counterexample :
    dimsCounterexample.nat "frame_mbs_only_flag" ≤ 1 ∧ dims dimsCounterexample = some (158, 158) ∧
      stdDims dimsCounterexample = some (159, 159) := by decide +kernel

/-- the Go functions the models of this property transcribe (committed table `spec/transcribed.json`, checked against
    the current source by the extractor on every run) all still exist -/
theorem model_sources_exist :
    (["AvcPps.lean", "AvcSlice.lean", "AvcSps.lean", "Bits.lean", "HevcPps.lean", "HevcSlice.lean", "HevcSps.lean", "Sei.lean"] : List String).all Mp4ff.Expect.presentFor = true := by decide +kernel

end Mp4ff.AvcSps.C15
