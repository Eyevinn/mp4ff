import Mp4ff.Model.Cenc
import Mp4ff.Expect.Facts
import Mp4ff.Lemmas.Cenc
import Mp4ff.Props.C06b
import Mp4ff.Expect.Transcribed
/-!
# C07 — encrypted output is well-formed Common Encryption and matches a reference cipher
Property theorems (proofs in `Mp4ff/Lemmas/Cenc.lean`, `CencRanges.lean`, `CencCipher.lean`).
saiz / saio / senc consistency of `EncryptFragment`'s output (`encrypted_wellformed`, `aux_boxes`, `senc_size_loop`) is in `Props/C06b.lean`.
-/
namespace Mp4ff.Cenc.C07
open Mp4ff.Nalu

/-- the two constants the range computation depends on are the ones in mp4/crypto.go today -/
theorem source_constants : Generated.const_minClearSize = minClearSize ∧ Generated.const_naluHdrLen = naluHdrLen :=
  ⟨Expect.consts.1, Expect.consts.2.1⟩

/-- **sub-sample entries partition the sample and protect exactly what the standard asks**, for every well-formed
    AVC or HEVC sample: NAL length fields, NAL headers, non-video units and the head of each long video unit clear;
    the tail of every video unit of ≥ 108 bytes protected to its end in whole 16-byte blocks; no clear count > 65535 -/
theorem protectRanges_cenc (c : Codec) (ns : List Bytes) (h : NalusOK ns) (hne : ns ≠ []) :
    ∃ rs, protectRanges c none (lenPrefixed ns) = some rs ∧ maskOf rs = cencMask c ns ∧
      (∀ r ∈ rs, r.clear ≤ 65535 ∧ r.prot % 16 = 0) := Cenc.protectRanges_cenc c ns h hne

/-- per unit: protected bytes are a multiple of 16 and end at the unit's end; a video unit longer than 127 bytes is
    protected starting at most 127 bytes in; non-video units are never protected -/
theorem cencProt_shape (c : Codec) (n : Bytes) :
    cencProt c n % 16 = 0 ∧ cencProt c n ≤ n.length ∧
    (c.isVideo (c.typeOf (n.headD 0)) = true → n.length > 127 → n.length - cencProt c n ≤ 127 ∧ 0 < cencProt c n) ∧
    (c.isVideo (c.typeOf (n.headD 0)) = false → cencProt c n = 0) := Cenc.cencProt_shape c n

/-- **cbcs: slice headers stay clear, every video NAL unit is protected from the end of its slice header to its end**,
    for every well-formed AVC or HEVC sample and every slice header size function `hdr` (bytes of the unit occupied by
    NAL header and slice header: the slice header parser's answer, Model/AvcSlice.lean / C15) that answers inside the
    unit: the sub-sample entries partition the sample with exactly the standard's mask — length field and `hdr n` bytes
    of a video unit clear, the rest of the unit protected, every other unit clear — and no clear count > 65535 -/
theorem protectRanges_cbcs (c : Codec) (hdr : Bytes → Option Nat) (ns : List Bytes) (h : NalusOK ns) (hne : ns ≠ [])
    (hh : ∀ n ∈ ns, c.isVideo (c.typeOf (n.headD 0)) = true → ∃ k, hdr n = some k ∧ k ≤ n.length) :
    ∃ rs, protectRanges c (some hdr) (lenPrefixed ns) = some rs ∧ maskOf rs = cbcsMask c hdr ns ∧
      (∀ r ∈ rs, r.clear ≤ 65535) := by
  obtain ⟨rs, h1, h2, h3⟩ := protectRanges_spec c (some hdr) (fun _ => True) trivial ns h hne
    fun n hn => ⟨hh n hn, trivial⟩
  exact ⟨rs, h1, h2, fun r hr => (h3 r hr).1⟩

/-- an IDR slice whose header occupies 3 bytes, after an access unit delimiter: 4 + 2 + 4 + 3 bytes clear, 4 protected -/
example : cbcsMask avc (fun _ => some 3) [[0x09, 0x10], [0x65, 1, 2, 3, 4, 5, 6]]
    = List.replicate 13 false ++ List.replicate 4 true := by decide
#guard protectRanges avc (some fun _ => some 3) (lenPrefixed [[0x09, 0x10], [0x65, 1, 2, 3, 4, 5, 6]]) == some [⟨13, 4⟩]

/-- `AppendProtectRange` splits clear runs above 65535 bytes without changing what is protected -/
theorem appendProtectRange_spec (l : List SubSample) (c p : Nat) :
    ∃ ext, appendProtectRange l c p = l ++ ext ∧ (ext.map (·.clear)).sum = c ∧ (ext.map (·.prot)).sum = p ∧
      (∀ r ∈ ext, r.clear ≤ 65535) ∧ maskOf ext = List.replicate c false ++ List.replicate p true :=
  Cenc.appendProtectRange_spec l c p

/-- **per-sample IVs advance by the number of cipher blocks used** (big-endian addition modulo 2^(8·len)), so the
    counter intervals of consecutive samples are adjacent and never overlap inside a fragment -/
theorem incrementIV_spec (iv : Bytes) (hiv : IsBytes iv) (ranges : List SubSample) (len : Nat) :
    (incrementIV iv ranges len).length = iv.length ∧
    beVal (incrementIV iv ranges len) = (beVal iv + nrEncBlocks ranges len) % 256 ^ iv.length :=
  Cenc.incrementIV_spec iv hiv ranges len

/-- **everything outside the protected ranges is byte-identical to the clear input**, and the length is unchanged -/
theorem cryptCenc_clear_unchanged (E : Block → Block) (hE : ∀ b, (E b).length = 16)
    (sample iv : Bytes) (ranges : List SubSample) (hne : ranges ≠ []) (hf : RangesFit ranges sample.length)
    (i : Nat) (hi : i < sample.length) (hm : (maskOf ranges).getD i false = false) :
    (cryptCenc E sample iv ranges)[i]? = sample[i]? ∧ (cryptCenc E sample iv ranges).length = sample.length :=
  Cenc.cryptCenc_clear_unchanged E hE sample iv ranges hne hf i hi hm

example : NalusOK [[0x65, 1, 2, 3], [0x06, 9]] := by
  unfold NalusOK IsBytes; decide

/-- the Go functions the models of this property transcribe (committed table `spec/transcribed.json`, checked against
    the current source by the extractor on every run) all still exist -/
theorem model_sources_exist :
    (["Aac.lean", "Bits.lean", "Boxes.lean", "Cenc.lean", "Nalu.lean", "Protect.lean"] : List String).all Mp4ff.Expect.presentFor = true := by decide +kernel

end Mp4ff.Cenc.C07
