import Mp4ff.Model.Segmenter
import Mp4ff.Lemmas.Segmenter
import Mp4ff.Model.Combine
import Mp4ff.Lemmas.Frag
import Mp4ff.Expect.Transcribed
/-!
# C11 — segmenting, resegmenting and multiplexing conserve every sample
Property theorems about `Model/Segmenter.lean`: the three grouping algorithms (segmenter intervals, resegmenter loop,
`MediaSegment.Fragmentify`) split the sample sequence into consecutive groups whose concatenation is the input, with
nothing dropped at the end, and start their groups at sync samples.  Proofs in `Mp4ff/Lemmas/Segmenter.lean`.
The model is tied to the code by the `seg.*` correspondence ops and by the direct oracle that expands every output of
the built tools back into per-track sample lists.
-/
namespace Mp4ff.Segmenter.C11
open Mp4ff.Stbl

/-- **resegmenting conserves the sample sequence** for every input, every chunk duration, every start time -/
theorem resegment_conserves (chunkDur t0 : Nat) (samples : List Sample) :
    (resegment chunkDur t0 samples).flatten = samples := Segmenter.resegment_conserves chunkDur t0 samples

/-- **every segment after the first starts with a sync sample** (the first one starts where the input starts) -/
theorem resegment_starts_sync (chunkDur t0 : Nat) (samples : List Sample) :
    ∀ g ∈ (resegment chunkDur t0 samples).tail, ∃ s rest, g = s :: rest ∧ s.sync = true :=
  Segmenter.resegment_starts_sync chunkDur t0 samples

/-- **no empty segment is written** when there is at least one sample (the first segment starts with the first
    sample, whatever its presentation time) -/
theorem resegment_nonempty (chunkDur t0 : Nat) (samples : List Sample) (h : samples ≠ []) :
    ∀ g ∈ resegment chunkDur t0 samples, g ≠ [] := Segmenter.resegment_nonempty chunkDur t0 samples h

/-- **Fragmentify conserves the sample sequence** and produces no empty fragment -/
theorem fragmentify_conserves (duration : Nat) (frags : List (List Sample)) :
    (fragmentify duration frags).flatten = frags.flatten ∧ ∀ g ∈ fragmentify duration frags, g ≠ [] :=
  Segmenter.fragmentify_conserves duration frags

/-- every fragment but the last reaches the requested duration with its last sample — or is a lone zero-duration
    sample (the `cumDur == 0` test cannot tell "nothing accumulated" from "zero accumulated"; the full statement
    without that alternative is false, counterexample below) -/
theorem fragmentify_durations_partial (duration : Nat) (hd : 0 < duration) (frags : List (List Sample))
    (hs : ((frags.flatten).map (·.dur)).sum < U32) :
    ∀ g ∈ (fragmentify duration frags).dropLast,
      (duration ≤ (g.map (·.dur)).sum ∧ ((g.dropLast).map (·.dur)).sum < duration) ∨
      ∃ s, g = [s] ∧ s.dur = 0 := Segmenter.fragmentify_durations_partial duration hd frags hs

/-- with positive sample durations every fragment but the last is exactly complete -/
theorem fragmentify_durations_pos (duration : Nat) (hd : 0 < duration) (frags : List (List Sample))
    (hs : ((frags.flatten).map (·.dur)).sum < U32) (hp : ∀ s ∈ frags.flatten, 0 < s.dur) :
    ∀ g ∈ (fragmentify duration frags).dropLast,
      duration ≤ (g.map (·.dur)).sum ∧ ((g.dropLast).map (·.dur)).sum < duration :=
  Segmenter.fragmentify_durations_pos duration hd frags hs hp

example : ∃ g ∈ (fragmentify 10 [[⟨0,0,true,1⟩, ⟨5,0,true,2⟩, ⟨5,0,true,3⟩]]).dropLast,
    ¬ (10 ≤ (g.map (·.dur)).sum) := by decide

/-- **the segmenter's intervals partition 1..total in order — nothing dropped at the end** — whenever the cut
    points are ascending sample numbers in 1..total+1 (which `nrAt_mono` / `nrAt_of_start` provide for real tables) -/
theorem intervals_partition (total : Nat) (nrAt : Nat → Option Nat) (conv : Nat → Nat) (pts : List SyncPoint)
    (hne : pts ≠ []) (cuts : List Nat) (hc : cutPoints nrAt conv pts = cuts.map some)
    (hsorted : cuts.Pairwise (· ≤ ·)) (hrange : ∀ n ∈ cuts, 1 ≤ n ∧ n ≤ total + 1) (htot : total + 1 < U32) :
    ∃ ivs, intervals total nrAt conv pts = some ivs ∧ ivs.length = pts.length ∧
      ivs.flatMap span = List.range' 1 total ∧
      ivs.map (·.1) = 1 :: cuts :=
  Segmenter.intervals_partition total nrAt conv pts hne cuts hc hsorted hrange htot

/-- `GetSampleNrAtTime` is monotone in the time: the cut points of any track are ascending -/
theorem nrAt_mono (b : Stts) (h : b.OK) (hpos : ∀ d ∈ b.delta, 0 < d) (hc : ∀ c ∈ b.count, 0 < c)
    (hN : b.durations.length + 1 < U32) (t1 t2 : Nat) (h12 : t1 ≤ t2) (ht : t2 < b.durations.sum) :
    ∃ k1 k2, b.getSampleNrAtTime t1 = some k1 ∧ b.getSampleNrAtTime t2 = some k2 ∧ k1 ≤ k2 ∧ 1 ≤ k1 ∧
      k2 ≤ b.durations.length + 1 := Segmenter.nrAt_mono b h hpos hc hN t1 t2 h12 ht

/-- **every segment of the reference track starts at its sync point**: asking for the sample at the decode time of
    sample `n` gives `n` -/
theorem nrAt_of_start (b : Stts) (h : b.OK) (hpos : ∀ d ∈ b.delta, 0 < d) (hc : ∀ c ∈ b.count, 0 < c)
    (hN : b.durations.length + 1 < U32) (n : Nat) (h1 : 1 ≤ n) (hn : n ≤ b.durations.length) :
    b.getSampleNrAtTime (startTime b.durations n) = some n := Segmenter.nrAt_of_start b h hpos hc hN n h1 hn

/-- non-vacuity: three sync points over 10 samples -/
example : intervals 10 (fun t => some (t / 10 + 1)) id [⟨1, 0, 0⟩, ⟨4, 30, 30⟩, ⟨8, 70, 70⟩] = some [(1, 3), (4, 7), (8, 10)] := by
  decide

/-- **combining single-track segments conserves every track's samples**: per output track a reader gets exactly the
    samples the input fragment expands to with the trex of its own init segment — for any number of inputs, any input
    run (optimised or not, values in the run, in tfhd or in trex) and whatever defaults the combined init carries -/
theorem combine_conserves (inputs : List Frag.CombineInput) (outTfhd : Frag.Tfhd) (outTrex : Frag.Trex) :
    Frag.combine inputs outTfhd outTrex = inputs.map fun i => Frag.readBack i.tfhd i.trex i.run := by
  unfold Frag.combine
  apply List.map_congr_left
  intro i _
  exact Frag.readBack_fresh outTfhd outTrex _ ⟨rfl, rfl, rfl, rfl, rfl⟩

/-- … which is false for the tool as it was (inputs expanded without their trex): a run whose durations come from the
    trex default comes out with duration 0 (repaired in /repo, known finding C11-combine-trex-defaults) -/
theorem combineNoTrex_loses :
    Frag.combineNoTrex [⟨{}, { defDur := 20 }, { hasDur := false, samples := [⟨0, 20, 5, 0⟩] }⟩] {} {} = [[⟨0, 0, 5, 0⟩]] ∧
    Frag.combine [⟨{}, { defDur := 20 }, { hasDur := false, samples := [⟨0, 20, 5, 0⟩] }⟩] {} {} = [[⟨0, 20, 5, 0⟩]] := by
  decide

/-! ### where the samples of an input fragment are (the sample source of Fragmentify / resegmenter / combine-segs) -/

/-- **an explicit base_data_offset takes precedence** over default-base-is-moof and over the position of the traf
    (ISO/IEC 14496-12 8.8.7.1) -/
theorem base_explicit_wins (b : Nat) (dbm : Bool) (moofStart prevTrafEnd : Nat) (firstTraf : Bool) :
    (Frag.TfhdBase.mk (some b) dbm).base moofStart prevTrafEnd firstTraf = b := rfl

/-- without base_data_offset: the moof start for default-base-is-moof and for the first traf of a moof -/
theorem base_default (dbm firstTraf : Bool) (moofStart prevTrafEnd : Nat) (h : dbm = true ∨ firstTraf = true) :
    (Frag.TfhdBase.mk none dbm).base moofStart prevTrafEnd firstTraf = moofStart := by
  rcases h with h | h <;> simp [Frag.TfhdBase.base, h]

/-- the same from any previous-run end (induction form of `positions_written_are_read`) -/
theorem runStarts_describe (base : Int) (prevEnd : Int) (l : List (Int × Bool × List Nat)) :
    ((Frag.runStarts base prevEnd (Frag.describeRuns base prevEnd l)).zip (Frag.describeRuns base prevEnd l)).flatMap
        (fun pr => Frag.offsetsFrom pr.1 pr.2.sizes) =
      l.flatMap fun x => Frag.offsetsFrom x.1 x.2.2 := by
  induction l generalizing prevEnd with
  | nil => simp [Frag.describeRuns, Frag.runStarts]
  | cons x rest ih =>
    obtain ⟨p, om, sizes⟩ := x
    simp only [Frag.describeRuns, Frag.runStarts]
    by_cases hc : om = true ∧ p = prevEnd
    · simp only [hc, and_self, if_true, List.zip_cons_cons, List.flatMap_cons]
      rw [← hc.2, ih]
    · simp only [hc, if_false, List.zip_cons_cons, List.flatMap_cons]
      have : base + (p - base) = p := by omega
      rw [this, ih]

/-- **the reader's rule finds every sample where the writer put it**: whatever base the tfhd designates (explicit
    base_data_offset — before, inside or behind the data, so that run offsets may be negative —, moof start), however
    the runs' data blocks are ordered and spaced in the mdat, and whichever runs that directly follow their predecessor
    (the first run: that start at the base) are written without data_offset, the positions resolved by 8.8.7.1 / 8.8.8.1
    are those of the sample data -/
theorem positions_written_are_read (h : Frag.TfhdBase) (moofStart : Nat) (l : List (Int × Bool × List Nat)) :
    let base : Int := (h.base moofStart moofStart true : Nat)
    Frag.samplePositions h moofStart (Frag.describeRuns base base l) = l.flatMap fun x => Frag.offsetsFrom x.1 x.2.2 := by
  intro base
  exact runStarts_describe base base l

/-- non-vacuity: both flags set, base 100 ≠ moof start 40; runs at 130 (offset 30), 136 (following, no offset), 120 -/
example : Frag.samplePositions ⟨some 100, true⟩ 40 [⟨some 30, [2, 4]⟩, ⟨none, [3]⟩, ⟨some 20, [5, 5]⟩] =
    [130, 132, 136, 120, 125] := by decide
/-- the Go functions the models of this property transcribe (committed table `spec/transcribed.json`, checked against
    the current source by the extractor on every run) all still exist -/
theorem model_sources_exist :
    (["Combine.lean", "Frag.lean", "SampleTables.lean", "Segmenter.lean"] : List String).all Mp4ff.Expect.presentFor = true := by decide +kernel

end Mp4ff.Segmenter.C11
