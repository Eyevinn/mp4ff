import Mp4ff.Lemmas.EsdsBase
/-!
# C02b — Size() = bytes written = header size field for the `esds` box and its MPEG-4 descriptors

The `esds` box is not a layout-DSL box: its payload is a tree of descriptors, each with a variable-length size field
whose number of bytes (`sizeFieldSizeMinus1 + 1`) is part of the structure (kept from the input by the decoder, 1 for
everything the public constructors build) and NOT a function of the value it carries.  `Size()`/`SizeSize()` count
exactly `sizeFieldSizeMinus1 + 1` bytes for it, so C02 holds iff the encoder writes exactly that many — whatever the
value, including values that do not fit (the high bits are dropped, nothing is added).

Model: `Mp4ff/Model/Esds.lean` (transcription of mp4/esds.go + mp4/descriptors.go), proofs `Mp4ff/Lemmas/EsdsBase.lean`.
All statements hold for EVERY descriptor tree, well-formed or not, in particular for `CreateEsdsBox(decConfig)` with a
decoder configuration of any length (the one-byte size fields wrap above 104 bytes; the sizes still agree).
Tie to the Go code: ops `esds.create` (decoder configurations of length 0..131, around 2^14 and larger), `esds.rt`
(descriptor trees in every size-field form) run under C02.
-/
namespace Mp4ff.C02b
open Mp4ff.Esds

/-- `writeDescriptorSize` writes exactly `sizeFieldSizeMinus1 + 1` bytes, whatever the value -/
theorem size_field_length (value sfs : Nat) : (writeSize value sfs).length = sfs + 1 := writeSize_length value sfs

/-- a descriptor's `EncodeSW` writes exactly `SizeSize()` bytes (any tree) -/
theorem descriptor_size (d : Desc) : (encodeDesc d).length = d.sizeSize := encodeDesc_length d

/-- the ES descriptor's `EncodeSW` writes exactly `SizeSize()` bytes (any tree) -/
theorem es_descriptor_size (e : ES) : (encodeES e).length = e.sizeSize := encodeES_length e

/-- **`EsdsBox.Encode` writes exactly `Size()` bytes** (any tree) -/
theorem esds_size (e : Esds) : (encodeEsdsBox e).length = sizeEsds e := encodeEsdsBox_length e

/-- **the written header size field is the length of the box** (first four bytes, big endian; boxes below 4 GiB) -/
theorem esds_header_field (e : Esds) (h : sizeEsds e < 2 ^ 32) :
    beVal ((encodeEsdsBox e).take 4) = (encodeEsdsBox e).length := by
  have h4 : (beBytes 4 (sizeEsds e)).length = 4 := beBytes_length 4 _
  have ht : (encodeEsdsBox e).take 4 = beBytes 4 (sizeEsds e) := by
    unfold encodeEsdsBox
    rw [List.append_assoc, List.take_left' h4]
  rw [ht, encodeEsdsBox_length, beVal_beBytes 4 _ (by simpa using h)]

/-- `CreateEsdsBox(decConfig).Size()` = 37 + len(decConfig), for a configuration of ANY length -/
theorem created_size (x : Bytes) : sizeEsds (createEsds x) = 37 + x.length := by
  simp [createEsds, createES, sizeEsds, ES.sizeSize, ES.size, flagDep, flagUrl, flagOcr, Desc.sizeSize, Desc.sfsOf,
    Desc.size, dsiSizeSize, slSizeSize, sizeSizes]
  omega

/-- **`CreateEsdsBox(decConfig).Encode` writes 37 + len(decConfig) = Size() bytes and that number is the header size
    field**, for a configuration of any length below 4 GiB — also above 104 bytes, where the one-byte descriptor size
    fields cannot carry their values any more -/
theorem created_written (x : Bytes) (h : 37 + x.length < 2 ^ 32) :
    (encodeEsdsBox (createEsds x)).length = 37 + x.length
      ∧ beVal ((encodeEsdsBox (createEsds x)).take 4) = 37 + x.length := by
  have hs := created_size x
  refine ⟨by rw [encodeEsdsBox_length, hs], ?_⟩
  rw [esds_header_field _ (by rw [hs]; exact h), encodeEsdsBox_length, hs]

/-! ## non-vacuity -/

/-- a 130-byte configuration: sizes agree although the ES / DecoderConfig / DecSpecificInfo size bytes have wrapped -/
example : (encodeEsdsBox (createEsds (List.replicate 130 7))).length = 167 := by
  rw [(created_written _ (by rw [List.length_replicate]; decide)).1, List.length_replicate]
example : sizeEsds (createEsds (List.replicate 130 7)) = 167 := by rw [created_size, List.length_replicate]
/-- the one-byte ES size field of that box holds (23 + 130) mod 128 = 25, the DecoderConfig's (15 + 130) mod 128 = 17 -/
example : (encodeEsdsBox (createEsds (List.replicate 130 7))).take 19
    = [0, 0, 0, 167, 0x65, 0x73, 0x64, 0x73, 0, 0, 0, 0, 3, 25, 0, 1, 0, 4, 17] := by
  decide +kernel

end Mp4ff.C02b
