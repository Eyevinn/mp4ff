import Mp4ff.Model.Cenc
import Mp4ff.Lemmas.Cenc
import Mp4ff.Props.C06b
import Mp4ff.Expect.Transcribed
/-!
# C06 — decrypting what was encrypted restores the content
Property theorems (proofs in `Mp4ff/Lemmas/Cenc.lean`, `CencCipher.lean`), over an abstract block cipher.
The box bookkeeping of encryption and decryption (structure, sizes, data offsets, sample entry) is in `Props/C06b.lean`.
-/
namespace Mp4ff.Cenc.C06

/-- **cenc**: AES-CTR over the same sub-sample map and IV is its own inverse, for every sample, every map that fits,
    every IV, every block function -/
theorem cryptCenc_involutive (E : Block → Block) (hE : ∀ b, (E b).length = 16 ∧ IsBytes (E b))
    (sample iv : Bytes) (hs : IsBytes sample) (ranges : List SubSample) (hf : RangesFit ranges sample.length) :
    cryptCenc E (cryptCenc E sample iv ranges) iv ranges = sample :=
  Cenc.cryptCenc_involutive E hE sample iv hs ranges hf

/-- CBC decryption inverts CBC encryption when `D` inverts `E` -/
theorem cbcDec_cbcEnc (E D : Block → Block) (hED : ∀ b, b.length = 16 → IsBytes b → D (E b) = b)
    (hE : ∀ b, (E b).length = 16 ∧ IsBytes (E b))
    (chain data : Bytes) (hc : chain.length = 16) (hcb : IsBytes chain) (hd : IsBytes data) (hl : data.length % 16 = 0) :
    (cbcDec D chain (cbcEnc E chain data).1).1 = data := Cenc.cbcDec_cbcEnc E D hED hE chain data hc hcb hd hl

/-- **cbcs**: the pattern cipher's decrypt ∘ encrypt is the identity for every crypt/skip pattern in whole blocks
    (1:9 video pattern, unpatterned audio, …), any data length (the partial last block stays clear) -/
theorem cbcsCrypt_roundtrip (E D : Block → Block) (hED : ∀ b, b.length = 16 → IsBytes b → D (E b) = b)
    (hE : ∀ b, (E b).length = 16 ∧ IsBytes (E b))
    (data iv : Bytes) (hiv : iv.length = 16) (hivb : IsBytes iv) (hd : IsBytes data) (crypt skip : Nat)
    (hc : crypt % 16 = 0) (hs : skip % 16 = 0) :
    cbcsCrypt (cbcDec D) (cbcsCrypt (cbcEnc E) data iv crypt skip) iv crypt skip = data :=
  Cenc.cbcsCrypt_roundtrip E D hED hE data iv hiv hivb hd crypt skip hc hs

/-- the Go functions the models of this property transcribe (committed table `spec/transcribed.json`, checked against
    the current source by the extractor on every run) all still exist -/
theorem model_sources_exist :
    (["Cenc.lean", "Nalu.lean", "Protect.lean"] : List String).all Mp4ff.Expect.presentFor = true := by decide +kernel

end Mp4ff.Cenc.C06
