import Mp4ff.Model.Crop
import Mp4ff.Lemmas.CropTables
import Mp4ff.Lemmas.CropLayout
import Mp4ff.Expect.Transcribed
/-!
# C10 — cropping a progressive file yields exactly a prefix of every track
Property theorems about `Model/Crop.lean` (the transcription of cmd/mp4ff-crop/main.go): the cut point, every
table-cropping routine against the naive per-sample expansion of the table, and the layout of the kept chunks in the
new mdat.  Proofs in `Mp4ff/Lemmas/CropTables.lean` and `CropLayout.lean`.  The model is tied to the tool by the `crop` correspondence op: the
tables of every generated input file go through `cropAll`, and the result is compared with the tables and chunk
offsets of the file the built binary writes; the `cropmdat` op compares `copied file (mergeRanges pieces)` (the bytes
`place_spec` speaks about) with the payload of the mdat the binary wrote, on files whose chunks are stored in any order.
-/
namespace Mp4ff.Crop.C10
open Mp4ff.Stbl

/-- **the cut point of a track**: `k` = the number of samples that start before the end time -/
theorem trackEnd_spec (b : Stts) (h : b.OK) (hpos : ∀ d ∈ b.delta, 0 < d) (hc : ∀ c ∈ b.count, 0 < c)
    (hN : b.durations.length + 1 < U32) (ts te : Nat) (hts : 0 < ts) (hts32 : ts < U32) (hte : te < b.durations.sum) :
    ∃ k, trackEnd b ts te ts = some k ∧ k ≤ b.durations.length ∧
      (∀ j, 1 ≤ j → j ≤ k → startTime b.durations j < te) ∧ te ≤ startTime b.durations (k + 1) :=
  Crop.trackEnd_spec b h hpos hc hN ts te hts hts32 hte

/-- **stts**: the cropped table expands to exactly the first `last` durations (cut inside a run, at a run
    boundary, in the last entry: every case) -/
theorem cropStts_spec (b : Stts) (hl : b.count.length = b.delta.length) (hs : b.count.sum < U32)
    (last : Nat) (hlast : last ≤ b.count.sum) :
    ∃ b', cropStts b last = some b' ∧ b'.durations = b.durations.take last ∧ b'.count.length = b'.delta.length :=
  Crop.cropStts_spec b hl hs last hlast

/-- **stss**: exactly the sync samples among the first `last` samples remain, in order -/
theorem cropStss_spec (nums : List Nat) (h : nums.Pairwise (· < ·)) (last : Nat) :
    cropStss nums last = nums.filter (· ≤ last) ∧
    (cropStss nums last).Pairwise (· < ·) ∧ ∀ n, n ∈ cropStss nums last ↔ (n ∈ nums ∧ n ≤ last) :=
  Crop.cropStss_spec nums h last

/-- **ctts**: the cropped table expands to exactly the first `last` composition offsets -/
theorem cropCtts_spec (counts : List Nat) (offs : List Int) (hl : counts.length = offs.length)
    (hs : counts.sum < U32) (last : Nat) (hlast : last ≤ counts.sum) :
    ∃ c', cropCtts (Ctts.ofCounts counts offs) last = some c' ∧
      Ctts.expand c' = (expandRuns counts offs).take last := Crop.cropCtts_spec counts offs hl hs last hlast

/-- sanity of the expansion used above: the uncropped table expands to all composition offsets -/
theorem ctts_expand_ofCounts (counts : List Nat) (offs : List Int) (hl : counts.length = offs.length)
    (hs : counts.sum < U32) : Ctts.expand (Ctts.ofCounts counts offs) = expandRuns counts offs :=
  Crop.ctts_expand_ofCounts counts offs hl hs

/-- **stsc**: every chunk before the one holding sample `last` keeps its size; that chunk is cut right after `last`;
    the cropped table is again a well-formed stsc table (first_chunk strictly increasing from 1, positive
    samples_per_chunk) -/
theorem cropStsc_spec (raw : List (Nat × Nat × Nat)) (h : RawOK raw) (cmax c last : Nat) (hw : NoWrap raw cmax)
    (h1 : 1 ≤ c) (hc : c ≤ cmax) (hlo : firstSampleOf raw c ≤ last) (hhi : last < firstSampleOf raw (c + 1)) :
    ∃ raw', cropStsc raw last = some raw' ∧
      (∀ j, 1 ≤ j → j < c → spcOf raw' j = spcOf raw j) ∧
      spcOf raw' c = last + 1 - firstSampleOf raw c ∧
      firstSampleOf raw' (c + 1) = last + 1 ∧
      RawOK raw' := Crop.cropStsc_spec raw h cmax c last hw h1 hc hlo hhi

/-- **stsz**: sizes of the first `last` samples are unchanged, the count is `last` -/
theorem cropStsz_spec (b : Stsz) (h : b.OK) (last : Nat) (hlast : last ≤ b.sampleNumber) :
    ∃ b', cropStsz b last = some b' ∧ b'.sampleNumber = last ∧ ∀ n, 1 ≤ n → n ≤ last → b'.sizeOf n = b.sizeOf n :=
  Crop.cropStsz_spec b h last hlast

/-- **the new mdat holds exactly the kept chunks, and every new chunk offset points at its chunk's bytes inside it**
    for every number of tracks, every interleaving of their chunks in the input -/
theorem place_spec (file : Bytes) (p : Pending) (h : InFile file p) (start : Nat) :
    let r := place p start
    (copied file r.2).length = ((p.flatten).map (·.size)).sum ∧
    r.1.length = p.length ∧
    ∀ i, i < p.length → (r.1.getD i []).length = (p.getD i []).length ∧
      ∀ j, j < (p.getD i []).length →
        let c := (p.getD i []).getD j ⟨0, 0⟩
        start ≤ (r.1.getD i []).getD j 0 ∧
        ((copied file r.2).drop ((r.1.getD i []).getD j 0 - start)).take c.size = (file.drop c.off).take c.size :=
  Crop.place_spec file p h start

/-- merging adjacent byte ranges (`byteRanges.addRange`) does not change what is copied -/
theorem mergeRanges_copied (file : Bytes) (pieces : List KChunk) (h : ∀ c ∈ pieces, c.off + c.size ≤ file.length) :
    copied file (mergeRanges pieces) = copied file pieces := Crop.mergeRanges_copied file pieces h

/-- the layout assumes no order of the chunk offsets: track 1 stores its second chunk before its first one and both
    around the chunk of track 2; chunks are written in processing order (per track in chunk order, across tracks by the
    lowest next offset), not in input order -/
example : place [[⟨50, 2⟩, ⟨10, 3⟩], [⟨30, 4⟩]] 100 = ([[104, 106], [100]], [⟨30, 4⟩, ⟨50, 2⟩, ⟨10, 3⟩]) := by decide

/-- non-vacuity: a two-run stts cut inside the second run -/
example : (cropStts ⟨[3, 4], [10, 20]⟩ 5).map (·.durations) = some [10, 10, 10, 20, 20] := by decide

/-- **header durations do not exceed the originals** (`writeUptoMdat`): whenever the tool succeeds, every track header
    carries the new duration, which is at most the track's previous one; every edit list keeps its entries, none of
    which grows and none of which is shortened to zero -/
theorem crop_header_durations (h h' : MovieHdr) (e ts : Nat) (hc : cropHeaders h e ts = some h') :
    h'.timescale = h.timescale ∧ h'.mvhdDur = min (newDuration h.timescale e ts) h.mvhdDur ∧
    h'.tracks.length = h.tracks.length ∧
    ∀ i (hi : i < h.tracks.length) (hi' : i < h'.tracks.length),
      h'.tracks[i].tkhdDur = newDuration h.timescale e ts ∧ h'.tracks[i].tkhdDur ≤ h.tracks[i].tkhdDur ∧
      h'.tracks[i].elst.length = h.tracks[i].elst.length ∧
      ∀ j (hj : j < h.tracks[i].elst.length) (hj' : j < h'.tracks[i].elst.length),
        h'.tracks[i].elst[j] ≤ h.tracks[i].elst[j] ∧ (0 < h.tracks[i].elst[j] → 0 < h'.tracks[i].elst[j]) := by
  obtain ⟨hall, rfl⟩ := cropHeaders_some hc
  refine ⟨rfl, rfl, by simp, fun i hi hi' => ?_⟩
  simp only [List.getElem_map]
  exact ⟨trivial, hall _ (List.getElem_mem hi), cropElst_length _ _, fun j hj _ => cropElst_getElem _ _ j hj⟩

/-- … and the movie header duration does not grow — for every input, also one whose movie header under-reports the
    duration (0 = unknown), which the tool used to overwrite with the new, larger value (fixed; see known findings) -/
theorem crop_movie_duration (h h' : MovieHdr) (e ts : Nat) (hc : cropHeaders h e ts = some h') :
    h'.mvhdDur ≤ h.mvhdDur := by
  rw [(crop_header_durations h h' e ts hc).2.1]
  exact Nat.min_le_right _ _

/-- in a consistent file (movie duration at least the duration of one track) it is exactly the new duration -/
theorem crop_movie_duration_eq (h h' : MovieHdr) (e ts : Nat) (hc : cropHeaders h e ts = some h')
    (hcons : ∃ t ∈ h.tracks, t.tkhdDur ≤ h.mvhdDur) : h'.mvhdDur = newDuration h.timescale e ts := by
  obtain ⟨hall, rfl⟩ := cropHeaders_some hc
  obtain ⟨t, ht, hle⟩ := hcons
  exact Nat.min_eq_left (Nat.le_trans (hall t ht) hle)

/-- the under-reporting movie header stays as it is -/
example : cropHeaders ⟨1000, 0, [⟨5000, [5000]⟩]⟩ 2000 1000 = some ⟨1000, 0, [⟨2000, [2000]⟩]⟩ := by decide

/-! non-vacuity: a two-track movie cut from 9 s / 10 s to 4 s -/
example : cropHeaders ⟨1000, 10000, [⟨10000, [10000]⟩, ⟨9000, [500, 8500]⟩]⟩ 360000 90000 =
    some ⟨1000, 4000, [⟨4000, [4000]⟩, ⟨4000, [500, 3500]⟩]⟩ := by decide

/-- the Go functions the models of this property transcribe (committed table `spec/transcribed.json`, checked against
    the current source by the extractor on every run) all still exist -/
theorem model_sources_exist :
    (["Crop.lean", "CropHdr.lean", "SampleTables.lean"] : List String).all Mp4ff.Expect.presentFor = true := by decide +kernel

end Mp4ff.Crop.C10
