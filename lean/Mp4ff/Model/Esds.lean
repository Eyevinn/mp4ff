import Mp4ff.Model.Basic
/-!
M9b: the `esds` box and its MPEG-4 descriptor framing — mp4/esds.go and mp4/descriptors.go.

Transcribed from the Go code as it is:

* the reader is `bits.FixedSliceReader`: reads are atomic, the error is sticky (`Rd.err`), after an error every
  read returns 0 / empty and does not move, `ReadBytes(n)` with `n < 0` *overwrites* the error, `SetPos` restores
  the position but never clears the error;
* `readSizeSize` accumulates 7 bits per byte in a `uint64` (bits shifted beyond 64 are lost) and counts the
  continuation bytes in a `byte` (wraps at 256); inside a parent the size field may not be longer than the bytes
  the parent has left (worktree fix 0f75ebb: nothing beyond the enclosing descriptor is read), and a
  DecoderConfig descriptor must declare at least its 13 fixed bytes; a size field whose value would leave the
  `uint64` or whose length would leave the `byte` is refused (worktree fix 24eac13), so both wraps are dead code
  in the fixed tree but stay in the transcription;
* `int(size)` conversions are two's-complement (`toI64`), `exceedsMaxNrBytes` is a `uint64` sum;
* `DecodeDescriptor` dispatches on the tag (4 DecoderConfig — recursive —, 5 DecSpecificInfo, 6 SLConfig, 3 is
  refused, anything else raw); errors inside the optional-descriptor loops are *caught*: the rest of the parent
  is kept as `UnknownData`;
* the encoder writes the size in exactly `sizeFieldSizeMinus1+1` bytes (0x80-padded form is preserved).

Recursion (nested DecoderConfig descriptors, the loops) is driven by fuel; `decodeEsds` supplies
`input length + 1`, which `Lemmas/EsdsDec.lean` proves is never exhausted.  Core Lean only.
-/
namespace Mp4ff.Esds

def W64 : Nat := 2 ^ 64

/-- two's-complement wrap of an `int` (64 bit) result: the value in [-2^63, 2^63) congruent to `x` mod 2^64
    (`Lemmas/EsdsBase.lean: wrapI64_eq`: `= (x + 2^63) % 2^64 - 2^63`).  Written by cases on the sign so that
    evaluation on a symbolic argument gets stuck at once (no `symbolic + 2^63` term for the kernel to peel). -/
def wrapI64 (x : Int) : Int :=
  match x with
  | .ofNat k => let y : Nat := k % 2 ^ 64; if y < 2 ^ 63 then (y : Int) else (y : Int) - 2 ^ 64
  | .negSucc k => let y : Nat := 2 ^ 64 - 1 - k % 2 ^ 64; if y < 2 ^ 63 then (y : Int) else (y : Int) - 2 ^ 64
/-- `int(u)` for a `uint64` -/
def toI64 (n : Nat) : Int := wrapI64 (n : Int)
/-- `uint64(i)` for an `int` (`= (x % 2^64).toNat`) -/
def toU64 (x : Int) : Nat :=
  match x with
  | .ofNat k => k % 2 ^ 64
  | .negSucc k => 2 ^ 64 - 1 - k % 2 ^ 64

/-! ## the slice reader -/

inductive RdErr
  | eof  -- ErrSliceRead "read too far in SliceReader"
  | neg  -- "attempt to read negative number of bytes"
deriving Repr, DecidableEq

structure Rd where
  rest : Bytes
  pos : Nat
  err : Option RdErr := none
deriving Repr

/-- read `n` bytes atomically (`ReadUint8/16/32`, `ReadFixedLengthString`) -/
def readN (n : Nat) (s : Rd) : Bytes × Rd :=
  if s.err.isSome then ([], s)
  else if s.rest.length < n then ([], { s with err := some .eof })
  else (s.rest.take n, { rest := s.rest.drop n, pos := s.pos + n, err := none })

def readBE (n : Nat) (s : Rd) : Nat × Rd :=
  let (b, s') := readN n s
  (beVal b, s')

/-- `ReadBytes(n int)`: the negative check comes first and overwrites an earlier error -/
def readBytes (n : Int) (s : Rd) : Bytes × Rd :=
  if n < 0 then ([], { s with err := some .neg })
  else readN n.toNat s

/-- `SetPos(saved position)`; the position is one that was valid before, so it cannot fail; the error stays -/
def setPos (saved cur : Rd) : Rd := { saved with err := cur.err }

/-- explicit (non-reader) errors of `readSizeSize` -/
inductive SzErr
  | long      -- "descriptor size field longer than the %d bytes available"
  | overflow  -- "descriptor size field has more than 256 bytes or more than 64 significant bits"
deriving Repr, DecidableEq

/-- continuation bytes of `readSizeSize` (`acc`, `sfs` so far, `nr` bytes read; the previous byte had bit 7 set).
    Last component: explicit error (nothing more is read then). -/
def sizeLoop (maxLen : Int) (acc sfs nr : Nat) : Bytes → Nat → Nat × Nat × Rd × Option SzErr
  | [], pos =>
    if (nr : Int) ≥ maxLen then (0, 0, ⟨[], pos, none⟩, some .long)
    else if sfs = 255 ∨ acc / 2 ^ 57 ≠ 0 then (0, 0, ⟨[], pos, none⟩, some .overflow)
    else ((sfs + 1) % 256, (acc * 128) % W64, ⟨[], pos, some .eof⟩, none)
  | b :: r, pos =>
    if (nr : Int) ≥ maxLen then (0, 0, ⟨b :: r, pos, none⟩, some .long)
    else if sfs = 255 ∨ acc / 2 ^ 57 ≠ 0 then (0, 0, ⟨b :: r, pos, none⟩, some .overflow)
    else
      let sfs' := (sfs + 1) % 256
      let acc' := (acc * 128 + b % 128) % W64
      if b ≥ 128 then sizeLoop maxLen acc' sfs' (nr + 1) r (pos + 1) else (sfs', acc', ⟨r, pos + 1, none⟩, none)

/-- `readSizeSize(sr, maxLen)` → (sizeFieldSizeMinus1, size, reader, explicit error); callers look at the
    explicit error and at the reader's error -/
def readSizeSize (maxLen : Int) (s : Rd) : Nat × Nat × Rd × Option SzErr :=
  if s.err.isSome then (0, 0, s, none)
  else match s.rest with
    | [] => (0, 0, { s with err := some .eof }, none)
    | b :: r =>
      if b ≥ 128 then sizeLoop maxLen (b % 128) 0 1 r (s.pos + 1) else (0, b, ⟨r, s.pos + 1, none⟩, none)

/-- `math.MaxInt`: the ES descriptor's own size field is bounded by the reader only -/
def maxInt : Int := 2 ^ 63 - 1

/-- `exceedsMaxNrBytes` -/
def exceeds (sfs size : Nat) (maxNr : Int) : Bool :=
  decide (size > toU64 maxNr ∨ (1 + sfs + 1 + size) % W64 > toU64 maxNr)

/-! ## descriptor trees -/

/-- the scalar part of a `DecoderConfigDescriptor` (+ its optional DecSpecificInfo and UnknownData) -/
structure DcHdr where
  sfs : Nat
  objType : Nat
  streamType : Nat
  bufSize : Nat
  maxBr : Nat
  avgBr : Nat
  /-- `DecSpecificInfo` (sizeFieldSizeMinus1, DecConfig) -/
  dsi : Option (Nat × Bytes)
  unk : Bytes
deriving Repr

/-- what `DecodeDescriptor` can return (`Descriptor` interface values) -/
inductive Desc where
  | dc (h : DcHdr) (others : List Desc)
  | dsi (sfs : Nat) (data : Bytes)
  | sl (sfs cfg : Nat) (more : Bytes)
  | raw (tag sfs : Nat) (data : Bytes)
deriving Repr

structure ES where
  sfs : Nat
  esId : Nat
  flags : Nat
  dependsOn : Nat
  url : Bytes
  ocr : Nat
  dc : DcHdr
  dcOthers : List Desc
  /-- `SLConfigDescriptor` (sizeFieldSizeMinus1, ConfigValue, MoreData) -/
  sl : Option (Nat × Nat × Bytes)
  others : List Desc
  unk : Bytes
deriving Repr

structure Esds where
  version : Nat
  flags : Nat
  es : ES
deriving Repr

/-! ## Size() / SizeSize() -/

def dsiSizeSize (d : Option (Nat × Bytes)) : Nat :=
  match d with
  | none => 0
  | some (f, x) => 1 + f + 1 + x.length

mutual
/-- `Size()`: payload after tag and size field -/
def Desc.size : Desc → Nat
  | .dc h others => 13 + dsiSizeSize h.dsi + sizeSizes others + h.unk.length
  | .dsi _ data => data.length
  | .sl _ _ more => 1 + more.length
  | .raw _ _ data => data.length
/-- Σ `SizeSize()` -/
def sizeSizes : List Desc → Nat
  | [] => 0
  | d :: ds => (1 + d.sfsOf + 1 + d.size) + sizeSizes ds
/-- `sizeFieldSizeMinus1` -/
def Desc.sfsOf : Desc → Nat
  | .dc h _ => h.sfs
  | .dsi f _ => f
  | .sl f _ _ => f
  | .raw _ f _ => f
end

/-- `SizeSize()`: tag + size field + payload -/
def Desc.sizeSize (d : Desc) : Nat := 1 + d.sfsOf + 1 + d.size

def slSizeSize (d : Option (Nat × Nat × Bytes)) : Nat :=
  match d with
  | none => 0
  | some (f, _, m) => 1 + f + 1 + (1 + m.length)

def flagDep (flags : Nat) : Bool := flags / 128 % 2 = 1
def flagUrl (flags : Nat) : Bool := flags / 64 % 2 = 1
def flagOcr (flags : Nat) : Bool := flags / 32 % 2 = 1

/-- `ESDescriptor.Size()` -/
def ES.size (e : ES) : Nat :=
  3 + (if flagDep e.flags then 2 else 0) + (if flagUrl e.flags then 1 + e.url.length else 0)
    + (if flagOcr e.flags then 2 else 0)
    + (Desc.dc e.dc e.dcOthers).sizeSize + slSizeSize e.sl + sizeSizes e.others + e.unk.length

def ES.sizeSize (e : ES) : Nat := 1 + e.sfs + 1 + e.size

/-- `EsdsBox.Size()` -/
def sizeEsds (e : Esds) : Nat := 8 + 4 + e.es.sizeSize

/-! ## encoder -/

/-- `writeDescriptorSize`: `sfs+1` bytes, 7 bits each, most significant first, bit 7 set on all but the last -/
def writeSize (size : Nat) : Nat → Bytes
  | 0 => [size % 128]
  | p + 1 => (size / 2 ^ (7 * (p + 1)) % 128 + 128) :: writeSize size p

def encodeDsi (d : Option (Nat × Bytes)) : Bytes :=
  match d with
  | none => []
  | some (f, x) => 5 :: writeSize x.length f ++ x

mutual
/-- `EncodeSW` of a descriptor -/
def encodeDesc : Desc → Bytes
  | .dc h others =>
      4 :: writeSize (Desc.dc h others).size h.sfs ++ beBytes 1 h.objType
        ++ beBytes 4 ((h.streamType % 256) <<< 24 ||| h.bufSize) ++ beBytes 4 h.maxBr ++ beBytes 4 h.avgBr
        ++ encodeDsi h.dsi ++ encodeDescs others ++ h.unk
  | .dsi f data => 5 :: writeSize data.length f ++ data
  | .sl f cfg more => 6 :: writeSize (1 + more.length) f ++ beBytes 1 cfg ++ more
  | .raw tag f data => (tag % 256) :: writeSize data.length f ++ data
def encodeDescs : List Desc → Bytes
  | [] => []
  | d :: ds => encodeDesc d ++ encodeDescs ds
end

def encodeSl (d : Option (Nat × Nat × Bytes)) : Bytes :=
  match d with
  | none => []
  | some (f, c, m) => encodeDesc (.sl f c m)

/-- `ESDescriptor.EncodeSW` -/
def encodeES (e : ES) : Bytes :=
  3 :: writeSize e.size e.sfs ++ beBytes 2 e.esId ++ beBytes 1 e.flags
    ++ (if flagDep e.flags then beBytes 2 e.dependsOn else [])
    ++ (if flagUrl e.flags then beBytes 1 e.url.length ++ e.url else [])
    ++ (if flagOcr e.flags then beBytes 2 e.ocr else [])
    ++ encodeDesc (.dc e.dc e.dcOthers) ++ encodeSl e.sl ++ encodeDescs e.others ++ e.unk

/-- box payload: version/flags + ES descriptor -/
def encodeEsds (e : Esds) : Bytes :=
  beBytes 4 ((e.version % 256) * 2 ^ 24 + e.flags) ++ encodeES e.es

/-- the whole box as `EsdsBox.Encode` writes it: 32-bit size, "esds", payload -/
def encodeEsdsBox (e : Esds) : Bytes :=
  beBytes 4 (sizeEsds e) ++ [0x65, 0x73, 0x64, 0x73] ++ encodeEsds e

/-! ## decoder -/

inductive Err
  | tagES                 -- "got tag %d instead of ESDescriptorTag"
  | acc (e : RdErr)       -- sr.AccError()
  | tooSmall              -- "descriptor size %d too small"
  | useES                 -- "use DecodeESDescriptor instead"
  | exceeds (tag : Nat)   -- "... size %d exceeds maxNrBytes %d" (4/5/6, 0 = raw; 3 = ES descriptor vs. box)
  | sizeField (e : SzErr) -- the explicit errors of `readSizeSize`
  | dcShort               -- "DecoderConfigDescriptor size %d is less than the 13 fixed bytes"
  | dcFail (e : Err)      -- "failed to decode descriptor: %w"
  | tooFarDC              -- "read too far in DecoderConfigDescriptor"
  | tooFarES              -- "read too far in ESDescriptor"
  | dsiLeft               -- "DecSpecificInfoDescriptor has %d bytes left"
  | slZero                -- "SLConfigDescriptor size is 0"
  | expectedDC            -- "expected DecoderConfigDescriptor"
  | sizeDiff              -- "read size %d differs from calculated size %d"
  | fuel                  -- model only: recursion fuel exhausted (proved impossible for `decodeEsds`)
deriving Repr, DecidableEq

def Err.isFuel : Err → Bool
  | .fuel => true
  | _ => false

abbrev Res (α : Type) := Except Err α × Rd

def accErr (s : Rd) : Err := match s.err with | some e => .acc e | none => .acc .eof

/-- `DecodeDecSpecificInfoDescriptor` (after the tag) -/
def decodeDSI (s : Rd) (maxNr : Int) : Res Desc :=
  let (sfs, size, s, ex) := readSizeSize (maxNr - 1) s
  if let some e := ex then (.error (.sizeField e), s)
  else if s.err.isSome then (.error (accErr s), s)
  else if exceeds sfs size maxNr then (.error (.exceeds 5), s)
  else
    let start := s.pos
    let (data, s) := readBytes (toI64 size) s
    let left : Int := toI64 size - ((s.pos - start : Nat) : Int)
    if left > 0 then (.error .dsiLeft, s)
    else if s.err.isSome then (.error (accErr s), s)
    else (.ok (.dsi sfs data), s)

/-- `DecodeSLConfigDescriptor` (after the tag) -/
def decodeSL (s : Rd) (maxNr : Int) : Res Desc :=
  let (sfs, size, s, ex) := readSizeSize (maxNr - 1) s
  if let some e := ex then (.error (.sizeField e), s)
  else if s.err.isSome then (.error (accErr s), s)
  else if exceeds sfs size maxNr then (.error (.exceeds 6), s)
  else if size = 0 then (.error .slZero, s)
  else
    let (cfg, s) := readBE 1 s
    let (more, s) := if size > 1 then readBytes (toI64 (size - 1)) s else ([], s)
    if s.err.isSome then (.error (accErr s), s)
    else (.ok (.sl sfs cfg more), s)

/-- `DecodeRawDescriptor` -/
def decodeRaw (tag : Nat) (s : Rd) (maxNr : Int) : Res Desc :=
  let (sfs, size, s, ex) := readSizeSize (maxNr - 1) s
  if let some e := ex then (.error (.sizeField e), s)
  else if s.err.isSome then (.error (accErr s), s)
  else if exceeds sfs size maxNr then (.error (.exceeds 0), s)
  else
    let (data, s) := readBytes (toI64 size) s
    if s.err.isSome then (.error (accErr s), s)
    else (.ok (.raw tag sfs data), s)

/-- the `for` loop of `DecodeDecoderConfigDescriptor`; `dec` = `DecodeDescriptor` -/
def dcLoop (dec : Rd → Int → Res Desc) (sizeI : Int) (dataStart : Nat) (h : DcHdr) :
    Nat → Rd → List Desc → Res Desc
  | 0, s, _ => (.error .fuel, s)
  | m + 1, s, others =>
    let left := wrapI64 (sizeI - ((s.pos - dataStart : Nat) : Int))
    if left = 0 then (.ok (.dc h others), s)
    else if left < 0 then (.error .tooFarDC, s)
    else
      match dec s left with
      | (.error e, s') =>
        if e.isFuel then (.error .fuel, s')
        else
          let (unk, s'') := readBytes left (setPos s s')
          (.ok (.dc { h with unk := unk } others), s'')
      | (.ok d, s') => dcLoop dec sizeI dataStart h m s' (others ++ [d])

/-- `DecodeDecoderConfigDescriptor` (after the tag); `n` = loop fuel -/
def decodeDC (dec : Rd → Int → Res Desc) (n : Nat) (s : Rd) (maxNr : Int) : Res Desc :=
  let (sfs, size, s, ex) := readSizeSize (maxNr - 1) s
  if let some e := ex then (.error (.sizeField e), s)
  else if s.err.isSome then (.error (accErr s), s)
  else if exceeds sfs size maxNr then (.error (.exceeds 4), s)
  else if size < 13 then (.error .dcShort, s)
  else
    let dataStart := s.pos
    let (ot, s) := readBE 1 s
    let (w, s) := readBE 4 s
    let (maxBr, s) := readBE 4 s
    let (avgBr, s) := readBE 4 s
    let h : DcHdr := ⟨sfs, ot, w / 2 ^ 24, w % 2 ^ 24, maxBr, avgBr, none, []⟩
    let left := wrapI64 (toI64 size - ((s.pos - dataStart : Nat) : Int))
    if left = 0 then (.ok (.dc h []), s)
    else
      match dec s left with
      | (.error e, s') => (.error (if e.isFuel then .fuel else .dcFail e), s')
      | (.ok d, s') =>
        match d with
        | .dsi f x => dcLoop dec (toI64 size) dataStart { h with dsi := some (f, x) } n s' []
        | d => dcLoop dec (toI64 size) dataStart h n s' [d]

/-- `DecodeDescriptor(sr, maxNrBytes)` -/
def decodeDescriptor : Nat → Rd → Int → Res Desc
  | 0, s, _ => (.error .fuel, s)
  | n + 1, s, maxNr =>
    if maxNr < 2 then (.error .tooSmall, s)
    else
      let (tag, s) := readBE 1 s
      if s.err.isSome then (.error (accErr s), s)
      else if tag = 3 then (.error .useES, s)
      else if tag = 4 then decodeDC (decodeDescriptor n) n s maxNr
      else if tag = 5 then decodeDSI s maxNr
      else if tag = 6 then decodeSL s maxNr
      else decodeRaw tag s maxNr

/-- the `for` loop of `DecodeESDescriptor` (including the size check after it) -/
def esLoop (dec : Rd → Int → Res Desc) (size : Nat) (dataStart : Nat) (e : ES) :
    Nat → Rd → List Desc → Res ES
  | 0, s, _ => (.error .fuel, s)
  | m + 1, s, others =>
    let left := wrapI64 (toI64 size - ((s.pos - dataStart : Nat) : Int))
    if left = 0 then
      let ed := { e with others := others }
      if size ≠ ed.size % W64 then (.error .sizeDiff, s)
      else if s.err.isSome then (.error (accErr s), s)
      else (.ok ed, s)
    else if left < 0 then (.error .tooFarES, s)
    else
      match dec s left with
      | (.error er, s') =>
        if er.isFuel then (.error .fuel, s')
        else
          let (unk, s'') := readBytes left (setPos s s')
          (.ok { e with others := others, unk := unk }, s'')
      | (.ok d, s') => esLoop dec size dataStart e m s' (others ++ [d])

/-- `DecodeESDescriptor`, second half: the DecoderConfig descriptor, the optional SLConfig descriptor, the loop
    (`s` = reader after the fixed and flag-dependent fields) -/
def decodeESBody (dec : Rd → Int → Res Desc) (n : Nat) (sfs size dataStart esId flags dep : Nat) (url : Bytes)
    (ocr : Nat) (s : Rd) : Res ES :=
  let left := wrapI64 (toI64 size - ((s.pos - dataStart : Nat) : Int))
  match dec s left with
  | (.error e, s') => (.error e, s')
  | (.ok (.dc h dcOthers), s') =>
    let e : ES := ⟨sfs, esId, flags, dep, url, ocr, h, dcOthers, none, [], []⟩
    let left := wrapI64 (toI64 size - ((s'.pos - dataStart : Nat) : Int))
    match dec s' left with
    | (.error er, s'') =>
      if er.isFuel then (.error .fuel, s'')
      else
        let (unk, s3) := readBytes left (setPos s' s'')
        (.ok { e with unk := unk }, s3)
    | (.ok (.sl f c m), s'') => esLoop dec size dataStart { e with sl := some (f, c, m) } n s'' []
    | (.ok d, s'') => esLoop dec size dataStart e n s'' [d]
  | (.ok _, s') => (.error .expectedDC, s')

/-- the flag-dependent fields of the ES descriptor: dependsOn_ES_ID, URL string, OCR_ES_Id -/
def readESOpt (flags : Nat) (s : Rd) : Nat × Bytes × Nat × Rd :=
  let (dep, s) := if flagDep flags then readBE 2 s else (0, s)
  let (url, s) :=
    if flagUrl flags then
      let (l, s) := readBE 1 s
      readN l s
    else ([], s)
  let (ocr, s) := if flagOcr flags then readBE 2 s else (0, s)
  (dep, url, ocr, s)

/-- `DecodeESDescriptor(sr, descSize)`; `descSize` = bytes of the box after version/flags (worktree fix 0fa6982:
    the ES descriptor may not reach beyond them) -/
def decodeES (dec : Rd → Int → Res Desc) (n : Nat) (descSize : Nat) (s : Rd) : Res ES :=
  let (tag, s) := readBE 1 s
  if tag ≠ 3 then (.error .tagES, s)
  else
    let (sfs, size, s, ex) := readSizeSize maxInt s
    if let some e := ex then (.error (.sizeField e), s)
    else if s.err.isSome then (.error (accErr s), s)
    else if exceeds sfs size (descSize : Int) then (.error (.exceeds 3), s)
    else
      let dataStart := s.pos
      let (esId, s) := readBE 2 s
      let (flags, s) := readBE 1 s
      let (dep, url, ocr, s) := readESOpt flags s
      decodeESBody dec n sfs size dataStart esId flags dep url ocr s

/-- `DecodeEsdsSR` on the box payload with explicit fuel -/
def decodeEsdsFuel (n : Nat) (bs : Bytes) : Except Err Esds :=
  let (vf, s) := readBE 4 ⟨bs, 0, none⟩
  let descSize := if bs.length ≥ 4 then (bs.length - 4) % 2 ^ 32 else 0
  match decodeES (decodeDescriptor n) n descSize s with
  | (.error e, _) => .error e
  | (.ok es, s) =>
    if s.err.isSome then .error (accErr s)
    else .ok ⟨vf / 2 ^ 24, vf % 2 ^ 24, es⟩

/-- `DecodeEsds`/`DecodeEsdsSR` on the payload of an `esds` box (the bytes after the 8-byte header) -/
def decodeEsds (bs : Bytes) : Except Err Esds := decodeEsdsFuel (bs.length + 1) bs

/-! ## CreateEsdsBox -/

/-- `CreateESDescriptor(decConfig)` -/
def createES (decConfig : Bytes) : ES :=
  { sfs := 0, esId := 1, flags := 0, dependsOn := 0, url := [], ocr := 0,
    dc := ⟨0, 0x40, 0x15, 0, 0, 0, some (0, decConfig), []⟩, dcOthers := [],
    sl := some (0, 2, []), others := [], unk := [] }

/-- `CreateEsdsBox(decConfig)` -/
def createEsds (decConfig : Bytes) : Esds := ⟨0, 0, createES decConfig⟩

end Mp4ff.Esds
