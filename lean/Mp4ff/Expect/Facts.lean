import Mp4ff.Generated.Facts
import Mp4ff.Model.Aac
import Mp4ff.Model.Boxes
/-!
Obligations on the facts regenerated from /repo's sources on every run (`/verif/extract`).  Each is closed by
the kernel (`decide`), so a source change that invalidates one makes `lake build` of the property fail.
-/
namespace Mp4ff.Expect
open Mp4ff.Generated

def sameSet (a b : List String) : Bool := a.all (b.contains ·) && b.all (a.contains ·)

/-- C03: the two decoder registries have the same key set -/
theorem registries_same_keys : sameSet decoderKeys decoderSRKeys = true := by decide +kernel

/-- C03: key k is served by `DecodeX` in one table and by `DecodeXSR` in the other -/
theorem registries_paired :
    (decoderKeys.zip decoderFuncs).all (fun kf =>
      (decoderSRKeys.zip decoderSRFuncs).any fun ks => ks.1 == kf.1 && ks.2 == kf.2 ++ "SR") = true := by
  decide +kernel

/-- no duplicate keys (a duplicate key in a Go map literal does not compile, but keep the fact explicit) -/
theorem registry_nodup : decoderKeys.Nodup ∧ decoderSRKeys.Nodup := by decide +kernel

/-- C01-C03 coverage accounting: every hand-modelled box type is a registered type -/
theorem modelled_are_registered : (Boxes.specs.map (·.1)).all (decoderKeys.contains ·) = true := by decide +kernel

/-- C20: the only package-level variables any function writes are the decoder registries, and only from
    `init`, `SetBoxDecoder`, `RemoveBoxDecoder` -/
def allowedWriters : List String := ["init", "SetBoxDecoder", "RemoveBoxDecoder"]
def registryVars : List String := ["decoders", "decodersSR", "sgeDecoders"]
theorem globals_written_only_by_registry_functions :
    globals.all (fun g => g.2.2.2 = [] || (registryVars.contains g.2.1 && g.2.2.2.all (allowedWriters.contains ·))) = true := by
  decide +kernel

/-- C20: apart from the registries and read-only tables/sentinel errors there is no package-level state.  The
    extractor follows named types to their definition and classifies initialisers (`&T{}`/`new(T)` = pointer, `T{}` of
    a struct type = struct, value of another package's type = foreign, result of an unrecognised call = unknown, …):
    a package-level OBJECT (pointer, struct, interface, chan, func, foreign, unknown) is not accepted, since its
    pointer-receiver methods can mutate it without any assignment the writers pass would see (a shared reader, a
    buffer pool, a cache behind a mutex …) -/
theorem globals_kinds :
    globals.all (fun g => g.2.2.1 == "error" || g.2.2.1 == "map" || g.2.2.1 == "slice" || g.2.2.1 == "array" || g.2.2.1 == "scalar") = true := by
  decide +kernel

/-- C18: the frequency tables in aac/aac.go are the model's table and its inverse -/
theorem aac_tables : aacFrequencyTable = Aac.freqTable ∧ aacReverseFrequencies = Aac.freqTable.map (fun p => (p.2, p.1)) := by
  decide +kernel

theorem consts : const_minClearSize = 96 ∧ const_naluHdrLen = 4 ∧ const_maxNormalPayloadSize = 2 ^ 32 - 1 - 8 ∧
    const_boxHeaderSize = 8 ∧ const_largeSizeLen = 8 ∧ const_startCodeEmulationPreventionByte = 3 := by decide

/-- every Go function a model file is a transcription of (committed table spec/transcribed.json, regenerated against
    the current source by the extractor) still exists: a model is never silently tied to code that has gone -/
theorem transcribed_functions_exist : transcribed.all (fun e => e.2.2) = true := by decide +kernel

end Mp4ff.Expect
